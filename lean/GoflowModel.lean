import GoflowModel.Lemmas.Basics
import GoflowModel.Basic.Hex
import GoflowModel.Basic.Quote
import GoflowModel.Basic.Tables
import GoflowModel.Excellent.Scanner
import GoflowModel.Excellent.LexText
import GoflowModel.Excellent.Template
import GoflowModel.Lemmas.Quote
import GoflowModel.Lemmas.LexText
import GoflowModel.Lemmas.Scanner
import GoflowModel.Props.C12
import GoflowModel.Driver.C12
import GoflowModel.ContactQL.Ast
import GoflowModel.ContactQL.Lexer
import GoflowModel.Lemmas.CQL
import GoflowModel.Props.C14
import GoflowModel.Props.C15
import GoflowModel.Driver.CQL
import GoflowModel.Engine.Model
import GoflowModel.Engine.Truncate
import GoflowModel.Lemmas.EngineCases
import GoflowModel.Lemmas.EngineCore
import GoflowModel.Lemmas.EngineSteps
import GoflowModel.Props.C01
import GoflowModel.Props.C05
import GoflowModel.Props.C10
import GoflowModel.Driver.Engine
import GoflowModel.Engine.Router
import GoflowModel.Engine.Localize
import GoflowModel.Props.C07
import GoflowModel.Props.C18
import GoflowModel.Driver.Router
import GoflowModel.Driver.Localize
import GoflowModel.Engine.Inspect
import GoflowModel.Props.C20
import GoflowModel.Driver.Inspect
import GoflowModel.Engine.Persist
import GoflowModel.Lemmas.EngineChain
import GoflowModel.Lemmas.EngineWalk
import GoflowModel.Lemmas.EngineWait
import GoflowModel.Lemmas.EngineEvents
import GoflowModel.Lemmas.EngineTerm
import GoflowModel.Props.C02
import GoflowModel.Contact.Model
import GoflowModel.Lemmas.GroupLoops
import GoflowModel.Props.C03
import GoflowModel.Props.C06
import GoflowModel.Driver.Contact
import GoflowModel.Basic.Dec
import GoflowModel.Basic.DateText
import GoflowModel.Lemmas.Dec
import GoflowModel.Lemmas.DateText
import GoflowModel.Gen.Consts
import GoflowModel.Props.C13
import GoflowModel.Driver.Values
import GoflowModel.Engine.Determinism
import GoflowModel.Gen.MapRanges
import GoflowModel.Props.C08
import GoflowModel.Engine.Concurrent
import GoflowModel.Gen.FieldWrites
import GoflowModel.Props.C09
import GoflowModel.Engine.Redaction
import GoflowModel.Gen.Redaction
import GoflowModel.Props.C19
import GoflowModel.Excellent.Expr
import GoflowModel.Excellent.Eval
import GoflowModel.Lemmas.ExprParse
import GoflowModel.Lemmas.ExprParseFull
import GoflowModel.Lemmas.NumValue
import GoflowModel.Lemmas.PrintNewline
import GoflowModel.Lemmas.ExprParseShape
import GoflowModel.Props.C11
import GoflowModel.Driver.Expr
import GoflowModel.Excellent.Legacy
import GoflowModel.Excellent.LegacyFull
import GoflowModel.Excellent.LegacyTable
import GoflowModel.Excellent.LegacyRefs
import GoflowModel.Lemmas.LegacyFull
import GoflowModel.Lemmas.LegacyRefs
import GoflowModel.Gen.LegacyFuncs
import GoflowModel.Gen.LegacyRefs
import GoflowModel.Gen.Reeval
import GoflowModel.Gen.ActionRefs
import GoflowModel.Props.C17
import GoflowModel.Driver.Legacy
import GoflowModel.Driver.LegacyFull
import GoflowModel.Engine.Migrate
import GoflowModel.Gen.Migrations
import GoflowModel.Props.C16
import GoflowModel.Excellent.Guards
import GoflowModel.Gen.Evaluate
import GoflowModel.Props.C04
import GoflowModel.Basic.Json
import GoflowModel.Basic.JsonString
import GoflowModel.Lemmas.Json
import GoflowModel.Lemmas.JsonString
import GoflowModel.Driver.Json
import GoflowModel.Props.C13Json
import GoflowModel.ContactQL.Parser
import GoflowModel.Lemmas.CQLParse
import GoflowModel.Lemmas.CQLLex
import GoflowModel.Migrate.Steps
import GoflowModel.Lemmas.MigrateSteps
import GoflowModel.Props.C16Steps
import GoflowModel.Props.C16Whole
import GoflowModel.Props.C16Vars
import GoflowModel.Engine.InspectRefs
import GoflowModel.Gen.ContextDoc
import GoflowModel.Props.C20Refs
import GoflowModel.Excellent.SliceGuards
import GoflowModel.Gen.Slices
import GoflowModel.Props.C04Slices
import GoflowModel.Props.C14Cut
import GoflowModel.Contact.Channel
import GoflowModel.Props.C03Channel
import GoflowModel.Gen.EvalText
import GoflowModel.Props.C05Text
import GoflowModel.Engine.ResultSpecs
import GoflowModel.Props.C20Specs
