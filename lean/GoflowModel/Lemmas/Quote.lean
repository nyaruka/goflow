import GoflowModel.Basic.Quote
/-! The quoting round trip: `strconv.Unquote` reads every form a rune can be written in (`Esc`) back as that rune,
so which one `strconv.Quote` picks does not matter. -/
namespace GoflowModel.Quote

theorem unhex_hexDigit (d : Nat) (h : d < 16) : unhex (hexDigit d) = some d := by
  have : ∀ d : Fin 16, unhex (hexDigit d.val) = some d.val := by decide
  exact this ⟨d, h⟩

theorem parseHex_append {a b : List Char} {x y : Nat} (ha : parseHex a = some x)
    (hb : parseHex b = some y) : parseHex (a ++ b) = some (x * 16 ^ b.length + y) := by
  induction a generalizing x with
  | nil => cases ha; simpa using hb
  | cons c a ih =>
    simp only [parseHex, Option.bind_eq_bind, Option.bind_eq_some_iff, Option.pure_def, Option.some.injEq] at ha
    obtain ⟨d, hd, z, hz, rfl⟩ := ha
    simp [parseHex, hd, ih hz, Nat.pow_add, Nat.add_mul, Nat.mul_assoc, Nat.add_assoc]

theorem parseHex_hex2 (n : Nat) (h : n < 256) : parseHex (hex2 n) = some n := by
  simp only [hex2, parseHex, unhex_hexDigit (n / 16 % 16) (by omega), unhex_hexDigit (n % 16) (by omega)]
  simp
  omega

theorem parseHex_hex4 (n : Nat) (h : n < 65536) : parseHex (hex4 n) = some n := by
  rw [hex4, parseHex_append (parseHex_hex2 (n / 256) (by omega)) (parseHex_hex2 (n % 256) (by omega))]
  simp only [hex2, List.length_cons, List.length_nil, Option.some.injEq]
  omega

theorem parseHex_hex8 (n : Nat) (h : n < 4294967296) : parseHex (hex8 n) = some n := by
  rw [hex8, parseHex_append (parseHex_hex4 (n / 65536) (by omega)) (parseHex_hex4 (n % 65536) (by omega))]
  simp only [hex4, hex2, List.length_cons, List.length_nil, List.length_append, Option.some.injEq]
  omega

theorem unqGo_raw (c : Char) (r : List Char) (h1 : c ≠ '"') (h2 : c ≠ '\n') (h3 : c ≠ '\\') :
    unqGo (c :: r) = (unqGo r).cons c := by
  simp [unqGo, *]

theorem validRune_toNat (c : Char) : validRune c.toNat = true := by
  have : c.toNat < 0xd800 ∨ 0xdfff < c.toNat ∧ c.toNat < 0x110000 := c.valid
  simp only [validRune, decide_eq_true_eq]
  omega

theorem unqGo_x (c : Char) (r : List Char) (h : c.toNat < 0x80) :
    unqGo ('\\' :: 'x' :: hex2 c.toNat ++ r) = (unqGo r).cons c := by
  have := parseHex_hex2 c.toNat (by omega)
  simp only [hex2, List.cons_append, List.nil_append] at this ⊢
  simp only [unqGo, this]
  simp [h]

theorem unqGo_u (c : Char) (r : List Char) (h : c.toNat < 65536) :
    unqGo ('\\' :: 'u' :: hex4 c.toNat ++ r) = (unqGo r).cons c := by
  have := parseHex_hex4 c.toNat h
  simp only [hex4, hex2, List.cons_append, List.nil_append] at this ⊢
  simp only [unqGo, this]
  simp [validRune_toNat c]

theorem unqGo_U (c : Char) (r : List Char) :
    unqGo ('\\' :: 'U' :: hex8 c.toNat ++ r) = (unqGo r).cons c := by
  have := parseHex_hex8 c.toNat c.val.toNat_lt
  simp only [hex8, hex4, hex2, List.cons_append, List.nil_append] at this ⊢
  simp only [unqGo, this]
  simp [validRune_toNat c]

/-- the two-character escapes of Go string literals -/
def shortEscapes : List (Char × Char) :=
  [('a', '\x07'), ('b', '\x08'), ('f', '\x0c'), ('n', '\n'), ('r', '\r'), ('t', '\t'), ('v', '\x0b'),
   ('\\', '\\'), ('"', '"')]

/-- `Esc pr c e`: `e` is one of the ways to write the rune `c` inside a Go string literal -/
inductive Esc (pr : Char → Bool) : Char → List Char → Prop
  | raw {c} : pr c = true → c ≠ '"' → c ≠ '\\' → Esc pr c [c]
  | short {l c} : (l, c) ∈ shortEscapes → Esc pr c ['\\', l]
  | x {c} : c.toNat < 0x80 → Esc pr c ('\\' :: 'x' :: hex2 c.toNat)
  | u {c} : c.toNat < 0x10000 → Esc pr c ('\\' :: 'u' :: hex4 c.toNat)
  | U {c} : Esc pr c ('\\' :: 'U' :: hex8 c.toNat)

/-- branch by branch with `iteInduction`: the cost of `split` doubles with every level of an `else if` chain -/
theorem escRune_esc (pr : Char → Bool) (c : Char) : Esc pr c (escRune pr c) :=
  iteInduction (fun h => by rcases h with rfl | rfl <;> exact .short (by decide)) fun hq =>
  iteInduction (fun hp => .raw hp (fun h => hq (.inl h)) fun h => hq (.inr h)) fun _ =>
  iteInduction (fun h => h ▸ .short (by decide)) fun _ =>
  iteInduction (fun h => h ▸ .short (by decide)) fun _ =>
  iteInduction (fun h => h ▸ .short (by decide)) fun _ =>
  iteInduction (fun h => h ▸ .short (by decide)) fun _ =>
  iteInduction (fun h => h ▸ .short (by decide)) fun _ =>
  iteInduction (fun h => h ▸ .short (by decide)) fun _ =>
  iteInduction (fun h => h ▸ .short (by decide)) fun _ =>
  iteInduction (fun h => .x (by omega)) fun _ =>
  iteInduction .u fun _ => .U

theorem escRuneSafe_esc (pr : Char → Bool) (c : Char) : Esc pr c (escRuneSafe pr c) :=
  iteInduction (fun h => by subst h; exact .u (by decide)) fun _ => escRune_esc pr c

theorem unqGo_short : ∀ p ∈ shortEscapes, ∀ r, unqGo ('\\' :: p.1 :: r) = (unqGo r).cons p.2 := by
  simp only [shortEscapes, List.forall_mem_cons, unqGo]
  simp

/-- `hpr`: a raw newline ends the literal -/
theorem unqGo_esc {pr : Char → Bool} (hpr : pr '\n' = false) {c : Char} {e : List Char}
    (h : Esc pr c e) (r : List Char) : unqGo (e ++ r) = (unqGo r).cons c := by
  cases h with
  | raw hp hq hb => exact unqGo_raw c r hq (fun h => by simp [h, hpr] at hp) hb
  | short h => exact unqGo_short _ h r
  | x h => exact unqGo_x c r h
  | u h => exact unqGo_u c r h
  | U => exact unqGo_U c r

theorem unqGo_flatMap {pr : Char → Bool} (hpr : pr '\n' = false) {f : Char → List Char}
    (hf : ∀ c, Esc pr c (f c)) (s r : List Char) :
    unqGo (s.flatMap f ++ r) = s.foldr UnqResult.cons (unqGo r) := by
  induction s with
  | nil => rfl
  | cons c s ih => rw [List.flatMap_cons, List.append_assoc, unqGo_esc hpr (hf c), ih, List.foldr_cons]

theorem unqGo_escRune (pr : Char → Bool) (hpr : pr '\n' = false) (c : Char) (r : List Char) :
    unqGo (escRune pr c ++ r) = (unqGo r).cons c :=
  unqGo_esc hpr (escRune_esc pr c) r

theorem unqGo_escRuneSafe (pr : Char → Bool) (hpr : pr '\n' = false) (c : Char) (r : List Char) :
    unqGo (escRuneSafe pr c ++ r) = (unqGo r).cons c :=
  unqGo_esc hpr (escRuneSafe_esc pr c) r

theorem unqGo_escBody (pr : Char → Bool) (hpr : pr '\n' = false) (s r : List Char) :
    unqGo (escBody pr s ++ r) = s.foldr UnqResult.cons (unqGo r) :=
  unqGo_flatMap hpr (escRune_esc pr) s r

theorem foldr_cons_ok (s : List Char) : s.foldr UnqResult.cons (.ok []) = .ok s := by
  induction s with
  | nil => rfl
  | cons c s ih => simp [List.foldr_cons, ih, UnqResult.cons]

theorem unqGo_close : unqGo ['"'] = .ok [] := rfl

theorem unquote_flatMap {pr : Char → Bool} (hpr : pr '\n' = false) {f : Char → List Char}
    (hf : ∀ c, Esc pr c (f c)) (s : List Char) : unquote ('"' :: (s.flatMap f ++ ['"'])) = .ok s := by
  rw [unquote, unqGo_flatMap hpr hf, unqGo_close, foldr_cons_ok]

/-- `strconv.Unquote (strconv.Quote s) = s` -/
theorem unquote_quote (pr : Char → Bool) (hpr : pr '\n' = false) (s : List Char) :
    unquote (quote pr s) = .ok s :=
  unquote_flatMap hpr (escRune_esc pr) s

theorem unquote_quoteSafe (pr : Char → Bool) (hpr : pr '\n' = false) (s : List Char) :
    unquote (quoteSafe pr s) = .ok s :=
  unquote_flatMap hpr (escRuneSafe_esc pr) s

end GoflowModel.Quote
