import GoflowModel.Lemmas.Quote
import GoflowModel.Excellent.LexText
/-! The quote/backslash state machine shared by the lexer rule and the scanner's literal reader. -/
namespace GoflowModel.LexText
open GoflowModel.Quote

/-- every `"` in the list is immediately preceded by a backslash (`p`: the rune before the list
is a backslash) -/
def QEsc : Bool → List Char → Bool
  | _, [] => true
  | p, c :: r => if c = '"' then p && QEsc false r else QEsc (decide (c = '\\')) r

/-- the list (or, if empty, what precedes it) ends with a backslash -/
def endsBS : Bool → List Char → Bool
  | p, [] => p
  | _, c :: r => endsBS (decide (c = '\\')) r

theorem QEsc_append (p : Bool) (a b : List Char) :
    QEsc p (a ++ b) = (QEsc p a && QEsc (endsBS p a) b) := by
  fun_induction QEsc p a <;> simp [*, QEsc, endsBS, Bool.and_assoc]

theorem endsBS_append (p : Bool) (a b : List Char) :
    endsBS p (a ++ b) = endsBS (endsBS p a) b := by
  fun_induction endsBS p a <;> simp [*, endsBS]

theorem textEnd_noquote {r : List Char} (h : '"' ∉ r) (p : Bool) (pos : Nat) (best : Option Nat) :
    textEnd r p pos best = best := by
  fun_induction textEnd r p pos best <;> simp_all

/-- `h`: after a body ending in a backslash the quote is only a candidate end (longest match), and stays the
end when no quote follows -/
theorem textEnd_closing (b rest : List Char) (p : Bool) (pos : Nat) (best : Option Nat)
    (hq : QEsc p b = true) (h : endsBS p b = false ∨ '"' ∉ rest) :
    textEnd (b ++ '"' :: rest) p pos best = some (pos + b.length + 1) := by
  fun_induction QEsc p b generalizing pos best with
  | case1 p =>
    cases p
    · rfl
    · simp only [endsBS, Bool.true_eq_false, false_or] at h
      simp [textEnd, textEnd_noquote h]
  | case2 p r ih =>
    rw [Bool.and_eq_true] at hq
    rw [List.cons_append, textEnd, if_pos rfl, if_pos hq.1, ih _ _ hq.2 h]
    simp +arith
  | case3 p c r hc ih =>
    rw [List.cons_append, textEnd, if_neg hc, ih _ _ hq h]
    simp +arith

theorem QEsc_noquote {p : Bool} {l : List Char} (h : '"' ∉ l) : QEsc p l = true := by
  fun_induction QEsc p l <;> simp_all

theorem endsBS_nobs {p : Bool} {l : List Char} (hne : l ≠ []) (h : '\\' ∉ l) : endsBS p l = false := by
  induction l generalizing p with
  | nil => exact absurd rfl hne
  | cons c l ih =>
    rw [List.mem_cons, not_or] at h
    rw [endsBS, decide_eq_false (Ne.symm h.1)]
    cases l with
    | nil => rfl
    | cons d l => exact ih (List.cons_ne_nil _ _) h.2

theorem hexDigit_ne (d : Nat) (h : d < 16) : '"' ≠ hexDigit d ∧ '\\' ≠ hexDigit d := by
  have : ∀ d : Fin 16, '"' ≠ hexDigit d.val ∧ '\\' ≠ hexDigit d.val := by decide
  exact this ⟨d, h⟩

theorem hex2_clean (n : Nat) : '"' ∉ hex2 n ∧ '\\' ∉ hex2 n := by
  simp [hex2, hexDigit_ne (n / 16 % 16) (by omega), hexDigit_ne (n % 16) (by omega)]

theorem hex4_clean (n : Nat) : '"' ∉ hex4 n ∧ '\\' ∉ hex4 n := by simp [hex4, hex2_clean]

theorem hex8_clean (n : Nat) : '"' ∉ hex8 n ∧ '\\' ∉ hex8 n := by simp [hex8, hex4_clean]

theorem QEsc_esc {pr : Char → Bool} {c : Char} {e : List Char} (h : Esc pr c e) (p : Bool) :
    QEsc p e = true := by
  cases h with
  | raw _ hq _ => simp [QEsc, hq]
  | short _ => simp [QEsc]
  | x _ => exact QEsc_noquote (by simp [hex2_clean])
  | u _ => exact QEsc_noquote (by simp [hex4_clean])
  | U => exact QEsc_noquote (by simp [hex8_clean])

theorem endsBS_esc {pr : Char → Bool} {c : Char} {e : List Char} (h : Esc pr c e) (hc : c ≠ '\\')
    (p : Bool) : endsBS p e = false := by
  have hs : ∀ q ∈ shortEscapes, q.1 = '\\' → q.2 = '\\' := by decide
  cases h with
  | raw _ _ _ => simp [endsBS, hc]
  | short h => simpa [endsBS] using fun hl => hc (hs _ h hl)
  | x _ => rw [endsBS]; exact endsBS_nobs (List.cons_ne_nil _ _) (by simp [hex2_clean])
  | u _ => rw [endsBS]; exact endsBS_nobs (List.cons_ne_nil _ _) (by simp [hex4_clean])
  | U => rw [endsBS]; exact endsBS_nobs (List.cons_ne_nil _ _) (by simp [hex8_clean])

theorem QEsc_escRune (pr : Char → Bool) (p : Bool) (c : Char) : QEsc p (escRune pr c) = true :=
  QEsc_esc (escRune_esc pr c) p

theorem endsBS_escRune (pr : Char → Bool) (p : Bool) (c : Char) :
    endsBS p (escRune pr c) = decide (c = '\\') := by
  by_cases h : c = '\\'
  · subst h; rfl
  · rw [endsBS_esc (escRune_esc pr c) h, decide_eq_false h]

theorem QEsc_escRuneSafe (pr : Char → Bool) (p : Bool) (c : Char) : QEsc p (escRuneSafe pr c) = true :=
  QEsc_esc (escRuneSafe_esc pr c) p

theorem endsBS_escRuneSafe (pr : Char → Bool) (p : Bool) (c : Char) :
    endsBS p (escRuneSafe pr c) = false := by
  by_cases h : c = '\\'
  · subst h; rfl
  · exact endsBS_esc (escRuneSafe_esc pr c) h p

theorem QEsc_flatMap {pr : Char → Bool} {f : Char → List Char} (hf : ∀ c, Esc pr c (f c))
    (p : Bool) (s : List Char) : QEsc p (s.flatMap f) = true := by
  induction s generalizing p with
  | nil => rfl
  | cons c s ih => rw [List.flatMap_cons, QEsc_append, QEsc_esc (hf c), ih]; rfl

theorem endsBS_flatMap {f : Char → List Char} {g : Char → Bool} (hf : ∀ p c, endsBS p (f c) = g c)
    (p : Bool) (s : List Char) :
    endsBS p (s.flatMap f) = match s.getLast? with | none => p | some c => g c := by
  induction s generalizing p with
  | nil => rfl
  | cons c s ih =>
    rw [List.flatMap_cons, endsBS_append, ih, hf]
    cases s with
    | nil => rfl
    | cons d s => rw [List.getLast?_cons_cons, List.getLast?_eq_some_getLast (List.cons_ne_nil d s)]

theorem QEsc_escBody (pr : Char → Bool) (p : Bool) (s : List Char) : QEsc p (escBody pr s) = true :=
  QEsc_flatMap (escRune_esc pr) p s

theorem endsBS_escBody (pr : Char → Bool) (p : Bool) (s : List Char) :
    endsBS p (escBody pr s) = match s.getLast? with | none => p | some c => decide (c = '\\') :=
  endsBS_flatMap (endsBS_escRune pr) p s

theorem QEsc_escBodySafe (pr : Char → Bool) (p : Bool) (s : List Char) :
    QEsc p (escBodySafe pr s) = true :=
  QEsc_flatMap (escRuneSafe_esc pr) p s

theorem endsBS_escBodySafe (pr : Char → Bool) (s : List Char) :
    endsBS false (escBodySafe pr s) = false := by
  rw [escBodySafe, endsBS_flatMap (endsBS_escRuneSafe pr)]
  cases s.getLast? <;> rfl

theorem lexText_closing (b rest : List Char) (hq : QEsc false b = true)
    (h : endsBS false b = false ∨ '"' ∉ rest) :
    lexText ('"' :: (b ++ '"' :: rest)) = some ('"' :: (b ++ ['"']), rest) := by
  simp only [lexText, textEnd_closing b rest false 0 none hq h, Nat.zero_add]
  rw [show b ++ '"' :: rest = (b ++ ['"']) ++ rest by simp, List.take_left' (by simp), List.drop_left' (by simp)]

end GoflowModel.LexText
