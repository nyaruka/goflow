import GoflowModel.Lemmas.EngineWalk
/-!
A session is only ever handed back waiting from `visitNode`'s wait branch: the waiting run's last
step is then on a node whose router has a wait.
-/
namespace GoflowModel.Engine

def WaitsAt (a : Assets) (s : Session) (w : Nat) : Prop :=
  ∃ node, runStatus s w = some .waiting ∧ AtNode a (pf s) w node ∧ node.hasRouter = true ∧ node.wait.isSome

def ResWait (a : Assets) : Result → Prop := OnOk fun st => st.s.status = .waiting → ∃ w, WaitsAt a st.s w

variable {a : Assets}

theorem VisitOut.waitsAt {st st' : St} {r d : Nat} {vc : VisitChoice} {node : Node} {step0 step : StepRef}
    {e : Option (Option Nat)} (hv : VisitOut (visited st r d vc) r node step0 (.ok st' step e))
    (hs : st.s.status ≠ .waiting) (hact : runStatus st.s r = some .active)
    (hat : AtNode a (pf (visited st r d vc).s) r node) (hw : st'.s.status = .waiting) : WaitsAt a st'.s r := by
  obtain ⟨t, hr⟩ := visited_touch st r d vc
  cases hv with
  | stay => exact absurd (t.status ▸ hw) hs
  | failed => exact absurd (t.status ▸ hw) hs
  | pick _ h => exact absurd ((h.touch.1.status.trans t.status) ▸ hw) hs
  | wait _ hr' hw' =>
    have h1 : runStatus (setStatus (visited st r d vc).s r .waiting) r = some .waiting :=
      (runStatus_modifyRun_set _ _ (by intro; rfl)).trans (by rw [hr, hact]; rfl)
    have h2 : AtNode a (pf (setStatus (visited st r d vc).s r .waiting)) r node := by rw [pf_setStatus]; exact hat
    exact ⟨node, h1, h2, hr', hw'⟩

theorem iter_wait (a : Assets) (o : Opts) (orc : Oracle) (l : Loop) (hc : Core l) :
    IterPost (fun _ => True) (ResWait a) (iter a o orc l) :=
  iter_cases hc trivial
    (fun {l1 cur _} _ _ _ _ _ _ h => by
      cases h with
      | ended => exact fun hw => absurd hw (by rcases endStatus_cases (finished l1 cur).st.s cur with h | h <;> simp [h])
      | _ => trivial)
    (fun _ h1 _ _ hcur hact h => by
      cases h with
      | waits _ hnode vc hv hw =>
        exact fun _ => ⟨_, hv.waitsAt h1.notWaiting hact (visited_walk hnode (h1.curValid _ hcur) vc).1 hw⟩
      | _ => trivial)

theorem start_wait (a : Assets) (o : Opts) (orc : Oracle) : ResWait a (start a o orc) := by
  rw [start_eq]
  split
  · trivial
  · exact loop_core (fun l hc _ => iter_wait a o orc l hc) trivial _ _ (Core_start orc) trivial

theorem resume_wait (a : Assets) (o : Opts) (orc : Oracle) (s : Session) (k : ResumeKind)
    (hok : SessOK s) (hpush : s.pushed = none) (hpbc : PBC s) :
    ResWait a (resume a o orc s k) := by
  have hr := resume_out a o orc s k
  generalize resume a o orc s k = res at hr
  cases hr with
  | rejected => trivial
  | tapeErr => trivial
  | unrecoverable => exact fun h => nomatch h
  | findErr => exact fun h => nomatch h
  | loop hw _ hf =>
    exact loop_core (fun l hc _ => iter_wait a o orc l hc) trivial _ _ (Core_resume hok hpush hpbc hw hf) trivial

end GoflowModel.Engine
