namespace GoflowModel

/-! A literal is `String.ofList` of its characters by definition, and `with_reducible rfl` reads it so (`hs` below).
Any other way the elaborator and the kernel unfold `String.ofList` into the UTF-8 byte array a `String` is, built by
repeated `push`: `String.decEq`, `.toList`, `.length` and `++` on literals are far worse than linear in the length. -/

/-- used as `simp (disch := with_reducible rfl) only [toList_lit]` -/
theorem toList_lit {s : String} {cs : List Char} (hs : s = String.ofList cs) : s.toList = cs :=
  hs ▸ String.toList_ofList

theorem eq_ofList {s : String} {cs l : List Char} (hs : s = String.ofList cs) (h : cs = l) : s = String.ofList l :=
  hs ▸ h ▸ rfl

/-- true of all large enough fuel: the form of every statement about a parser that takes fuel -/
def Ev (P : Nat → Prop) : Prop := ∃ f0, ∀ f, f0 ≤ f → P f

theorem Ev.step {P Q : Nat → Prop} (k : Nat) (h : Ev P) (hs : ∀ f, P f → Q (f + k)) : Ev Q := by
  obtain ⟨a, ha⟩ := h
  refine ⟨a + k, fun f hf => ?_⟩
  obtain ⟨g, rfl⟩ : ∃ g, f = g + k := ⟨f - k, by omega⟩
  exact hs g (ha g (by omega))

theorem Ev.now {Q : Nat → Prop} (hs : ∀ f, Q (f + 1)) : Ev Q :=
  Ev.step 1 (P := fun _ => True) ⟨0, fun _ _ => trivial⟩ fun f _ => hs f

theorem Ev.and {P P' : Nat → Prop} (h : Ev P) (h' : Ev P') : Ev fun f => P f ∧ P' f :=
  let ⟨a, ha⟩ := h
  let ⟨b, hb⟩ := h'
  ⟨max a b, fun f hf => ⟨ha f (Nat.le_trans (Nat.le_max_left a b) hf), hb f (Nat.le_trans (Nat.le_max_right a b) hf)⟩⟩

theorem Ev.step₂ {P P' Q : Nat → Prop} (h : Ev P) (h' : Ev P') (hs : ∀ f, P f → P' f → Q (f + 1)) : Ev Q :=
  (h.and h').step 1 fun f ⟨x, y⟩ => hs f x y

theorem Ev.mono {P Q : Nat → Prop} (h : Ev P) (hs : ∀ f, P f → Q f) : Ev Q :=
  h.step 0 hs

theorem dropWhile_eq_self {α : Type} {p : α → Bool} {l : List α} (h : ∀ a, l.head? = some a → p a = false) :
    l.dropWhile p = l := by
  cases l with
  | nil => rfl
  | cons a t => simp [h a rfl]

theorem head?_dropWhile {α : Type} {p : α → Bool} {l : List α} {a : α} (h : (l.dropWhile p).head? = some a) :
    p a = false := by
  have := List.head?_dropWhile_not p l
  rwa [h] at this

end GoflowModel
