import GoflowModel.Lemmas.ExprParseFull
/-!
The operator core of the expression language — plain references, numbers, `true`/`false`/`null`,
negation, parentheses and the twelve binary operators — as a predicate on trees.  Such a tree is a
well-shaped tree of the whole language (`shape_of_core`), so its round trip is that of `Lemmas/ExprParseFull`.
-/
namespace GoflowModel.Expr

/-- the same function as `Full.quiet` (each unfolds to the other's body); the statements about the operator core are
written with this one -/
def quiet : List Tok → Prop
  | .dot :: _ => False
  | .lbrack :: _ => False
  | .lparen :: _ => False
  | .arrow :: _ => False
  | _ => True

/-- the operator loop at level `p` stops here -/
def stops (p : Nat) : List Tok → Prop
  | .op o :: _ => ¬ p ≤ o.prec
  | _ => True

/-- the same function as `Full.level`; `Excellent/Legacy` (`wrapTo`) and `Core` are written with this one -/
def level : Expr → Nat
  | .bin o _ _ => o.prec
  | .neg _ => 13
  | _ => 14

/-- the operator core as the parser produces it; in `bin` the right operand is strictly above the operator (left
associativity) -/
inductive Core : Expr → Prop where
  | ref {n} : lowerName n = n → Core (.ref n)
  | tru : Core (.bool true)
  | fls : Core (.bool false)
  | null : Core .null
  | num {s} : numValue s = s → Core (.num s)
  | neg {e} : Core e → 13 ≤ level e → Core (.neg e)
  | paren {e} : Core e → Core (.paren e)
  | bin {o l r} : Core l → Core r → o.prec ≤ level l → o.prec + 1 ≤ level r → Core (.bin o l r)

/-- without anonymous functions a tree's right edge is its level -/
theorem shape_of_core {e : Expr} (h : Core e) : Full.Shape (.e e) ∧ Full.edge e = level e := by
  induction h with
  | ref hn => exact ⟨.ref hn, rfl⟩
  | tru => exact ⟨.tru, rfl⟩
  | fls => exact ⟨.fls, rfl⟩
  | null => exact ⟨.null, rfl⟩
  | num hs => exact ⟨.num hs, rfl⟩
  | neg _ hl ih => exact ⟨.neg ih.1 hl, by show min 13 (Full.edge _) = 13; rw [ih.2]; exact Nat.min_eq_left hl⟩
  | paren _ ih => exact ⟨.paren ih.1, rfl⟩
  | bin _ _ hl hr ihl ihr =>
    exact ⟨.bin ihl.1 ihr.1 (ihl.2 ▸ hl) hr,
      by show min _ (Full.edge _) = _; rw [ihr.2]; exact Nat.min_eq_left (Nat.le_of_succ_le hr)⟩

end GoflowModel.Expr
