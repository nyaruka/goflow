import GoflowModel.Basic.Tables
namespace GoflowModel.Tables

/-- so `strconv.Quote` escapes a newline -/
theorem isPrint_newline : isPrint '\n' = false := by
  -- The table is twelve arrays joined by `++`, which the kernel evaluates push by push, each push copying
  -- what is there; as lists the chunks append in linear time.
  rw [isPrint, ← Array.toArray_toList (xs := Gen.Unicode.printable)]
  simp only [Gen.Unicode.printable, Array.toList_append]
  decide +kernel

end GoflowModel.Tables
