import GoflowModel.Lemmas.EngineCore
/-!
Every run's path is a walk in its flow's graph: a step's exit belongs to the step's node and
leads to the next step's node; only the last step may lack an exit.
-/
namespace GoflowModel.Engine

def walkFrom (nodes : List Node) : List Step → Bool
  | [] => true
  | [t] => match t.exit with
    | none => decide (t.node < nodes.length)
    | some e => ((nodes[t.node]?).map fun n => decide (e < n.exits.length)).getD false
  | t :: u :: r =>
    (match t.exit with
     | none => false
     | some e => ((nodes[t.node]?).bind fun n => n.exits[e]?) == some (some u.node)) &&
    walkFrom nodes (u :: r)

/-- The one fact about walks the engine needs: `rest = []` is the last step left through `e'`, `rest = [⟨d, none⟩]`
is that with the step to which the exit leads. -/
theorem walk_replace_last (nodes : List Node) {n : Nat} {e e' : Option Nat} {rest : List Step}
    (h' : walkFrom nodes (⟨n, e'⟩ :: rest) = true) :
    ∀ q : List Step, walkFrom nodes (q ++ [⟨n, e⟩]) = true → walkFrom nodes (q ++ ⟨n, e'⟩ :: rest) = true
  | [], _ => h'
  | [a], h => by
    simp only [List.cons_append, List.nil_append, walkFrom, Bool.and_eq_true] at h ⊢
    exact ⟨h.1, h'⟩
  | a :: b :: q, h => by
    simp only [List.cons_append, walkFrom, Bool.and_eq_true] at h ⊢
    exact ⟨h.1, walk_replace_last nodes h' (b :: q) h.2⟩

theorem modify_last {α : Type} (q : List α) (t : α) (g : α → α) :
    (q ++ [t]).modify ((q ++ [t]).length - 1) g = q ++ [g t] := by
  induction q with
  | nil => rfl
  | cons a q ih => simpa using ih

/-- all that the walk invariant and the step count (`totalSteps_of_pf`) read of a session -/
def pf (s : Session) : List (Nat × List Step) := s.runs.map fun x => (x.flow, x.path)

theorem pf_setSess (s : Session) (x : SessStatus) : pf { s with status := x } = pf s := rfl
theorem pf_setPushed (s : Session) (p : Option Pushed) : pf { s with pushed := p } = pf s := rfl

theorem pf_modifyRun (s : Session) (r : Nat) {f : Run → Run} {g : Nat × List Step → Nat × List Step}
    (h : ∀ x, ((f x).flow, (f x).path) = g (x.flow, x.path)) : pf (modifyRun s r f) = (pf s).modify r g := by
  apply List.ext_getElem?
  intro i
  simp only [pf, List.getElem?_map, getElem?_modifyRun, List.getElem?_modify, Option.map_map, Option.map_eq_map]
  cases s.runs[i]? <;> simp only [Option.map_none, Option.map_some, Function.comp]
  split
  · rw [h]
  · rfl

theorem pf_modifyRun_same (s : Session) (r : Nat) {f : Run → Run}
    (h : ∀ x, ((f x).flow, (f x).path) = (x.flow, x.path)) : pf (modifyRun s r f) = pf s := map_modifyRun h s r

theorem pf_exitRun (s : Session) (r : Nat) (st : RunStatus) : pf (exitRun s r st) = pf s :=
  pf_modifyRun_same _ _ fun _ => rfl

theorem pf_setStatus (s : Session) (r : Nat) (st : RunStatus) : pf (setStatus s r st) = pf s :=
  pf_modifyRun_same _ _ fun _ => rfl

theorem pf_logEvents (st : St) (r : Nat) (step : Option StepRef) (ks : List EvK) :
    pf (logEvents st r step ks).s = pf st.s := by
  rw [logEvents_eq]; exact pf_modifyRun_same _ _ fun _ => rfl

theorem pf_logEvent (st : St) (r : Nat) (step : Option StepRef) (k : EvK) : pf (logEvent st r step k).s = pf st.s :=
  pf_logEvents st r step [k]

theorem pf_failRun (st : St) (r : Nat) (step : Option StepRef) : pf (failRun st r step).s = pf st.s :=
  (pf_logEvent _ _ _ _).trans (pf_exitRun _ _ _)

theorem pf_map (s : Session) {f : Run → Run} (h : ∀ x, ((f x).flow, (f x).path) = (x.flow, x.path))
    (st : SessStatus) : pf { s with runs := s.runs.map f, status := st } = pf s := by
  simp only [pf, List.map_map]
  exact List.map_congr_left fun x _ => h x

theorem pf_exitAll (s : Session) : pf (exitAll s) = pf s := pf_map s (by intro; rfl) _

theorem pf_ite_exitAll (c : Prop) [Decidable c] (s : Session) : pf (if c then exitAll s else s) = pf s := by
  split
  · exact pf_exitAll s
  · rfl

theorem pf_leave (s : Session) (r : Nat) (e : Option Nat) :
    pf (leave s r e) = (pf s).modify r fun x => (x.1, x.2.modify (x.2.length - 1) fun t => { t with exit := e }) :=
  pf_modifyRun _ _ fun _ => rfl

theorem pf_createStep (st : St) (r d : Nat) :
    pf (createStep st r d).1.s = (pf st.s).modify r fun x => (x.1, x.2 ++ [⟨d, none⟩]) :=
  pf_modifyRun _ _ fun _ => rfl

theorem pf_visited (st : St) (r d : Nat) (vc : VisitChoice) :
    pf (visited st r d vc).s = pf (createStep st r d).1.s := by
  unfold visited setPushedOpt; split <;> exact pf_logEvents _ _ _ _

def WalkAllL (a : Assets) (L : List (Nat × List Step)) : Prop :=
  ∀ (i fl : Nat) (p : List Step), L[i]? = some (fl, p) → ∀ f, getFlow a fl = some f → walkFrom f.nodes p = true

def AtNode (a : Assets) (L : List (Nat × List Step)) (r : Nat) (node : Node) : Prop :=
  ∃ fl p f t, L[r]? = some (fl, p) ∧ getFlow a fl = some f ∧ p.getLast? = some t ∧ f.nodes[t.node]? = some node

/-- An exit `e` the loop is about to follow from run `c`: if its destination is a node of the flow (which only `goDest`
finds out), a step there continues the walk. -/
def Leads (a : Assets) (L : List (Nat × List Step)) (c : Nat) (e : Option (Option Nat)) : Prop :=
  ∀ d, e = some (some d) → ∀ fl p f, L[c]? = some (fl, p) → getFlow a fl = some f → d < f.nodes.length →
    walkFrom f.nodes (p ++ [⟨d, none⟩]) = true

variable {a : Assets} {L : List (Nat × List Step)} {s : Session} {st st' : St} {r d : Nat} {node : Node}
  {e : Option (Option Nat)}

theorem WalkAllL.of_pf {s' : Session} (hw : WalkAllL a (pf s)) (h : pf s' = pf s) : WalkAllL a (pf s') :=
  h ▸ hw

structure Walks (a : Assets) (L : List (Nat × List Step)) (c : Option Nat) (e : Option (Option Nat)) : Prop where
  walk : WalkAllL a L
  link : ∀ r, c = some r → Leads a L r e

theorem Walks.same {L' : List (Nat × List Step)} (hw : WalkAllL a L) (h : L' = L) (c : Option Nat) (he : e = none) :
    Walks a L' c e :=
  ⟨h ▸ hw, fun _ _ _ hd => by rw [he] at hd; cases hd⟩

theorem WalkAllL_modify {fl : Nat} {p p' : List Step} {f : Flow} (g : Nat × List Step → Nat × List Step)
    (h : WalkAllL a L) (h1 : L[r]? = some (fl, p)) (h2 : getFlow a fl = some f) (hg : g (fl, p) = (fl, p'))
    (hp : walkFrom f.nodes p' = true) : WalkAllL a (L.modify r g) := by
  intro i fl' q hi f' hf'
  rw [List.getElem?_modify] at hi
  obtain ⟨x, hx, hi⟩ := Option.map_eq_some_iff.1 hi
  by_cases hri : r = i
  · subst hri
    rw [if_pos rfl] at hi
    cases h1.symm.trans hx; cases hg.symm.trans hi; cases h2.symm.trans hf'
    exact hp
  · rw [if_neg hri] at hi
    exact h i _ _ (hi ▸ hx) f' hf'

theorem pf_pushRun (s : Session) (fl : Nat) (par : Option Nat) : pf (pushRun s fl par) = pf s ++ [(fl, [])] := by
  simp [pf, pushRun]

theorem pushRun_walk (fl : Nat) (par : Option Nat) (e : Option (Option Nat)) (h : WalkAllL a (pf s)) :
    Walks a (pf (pushRun s fl par)) (some s.runs.length) e := by
  rw [show s.runs.length = (pf s).length by simp [pf]]
  constructor
  · intro i fl' p hi f hf
    rw [pf_pushRun] at hi
    rcases List.mem_append.1 (List.mem_of_getElem? hi) with h' | h'
    · obtain ⟨j, hj⟩ := List.getElem?_of_mem h'
      exact h j _ _ hj f hf
    · cases List.mem_singleton.1 h'; rfl
  · intro _ hr d _ fl' p f hi _ hd
    cases hr
    rw [pf_pushRun, List.getElem?_concat_length] at hi
    cases hi
    simp [walkFrom, hd]

theorem leave_walk (e' dest : Option Nat) (hw : WalkAllL a (pf s)) (hat : AtNode a (pf s) r node)
    (he : ∀ e, e' = some e → node.exits[e]? = some dest) :
    Walks a (pf (leave s r e')) (some r) (e'.map fun _ => dest) := by
  obtain ⟨fl, p, f, t, h1, h2, h3, h4⟩ := hat
  obtain ⟨q, rfl⟩ := List.getLast?_eq_some_iff.1 h3
  have hq := hw r fl _ h1 f h2
  rw [pf_leave]
  constructor
  · refine WalkAllL_modify _ hw h1 h2 (by dsimp only; rw [modify_last]) (walk_replace_last f.nodes ?_ q hq)
    cases e' with
    | none => simp [walkFrom, (List.getElem?_eq_some_iff.1 h4).1]
    | some e => simp [walkFrom, h4, (List.getElem?_eq_some_iff.1 (he e rfl)).1]
  · intro _ hr d hd fl' p' f' h1' h2' hdlt
    cases hr
    rw [List.getElem?_modify_eq, h1] at h1'
    cases h1'; cases h2.symm.trans h2'
    cases e' with
    | none => cases hd
    | some e =>
      cases hd
      rw [modify_last, List.append_assoc]
      refine walk_replace_last f.nodes ?_ q hq
      simp [walkFrom, h4, he e rfl, hdlt]

theorem PickOut.walk {step : StepRef} (h : PickOut st r node step (.ok st' e)) (hw : WalkAllL a (pf st.s))
    (hat : AtNode a (pf st.s) r node) : Walks a (pf st'.s) (some r) e := by
  cases h with
  | noCategory => exact .same hw (pf_failRun _ _ _) _ rfl
  | noExit => exact leave_walk none none hw hat fun _ h => nomatch h
  | exit e dest h => exact leave_walk (some e) dest hw hat fun _ he => by cases he; exact h

theorem pathLocation_of_atNode {w : Nat} (h : AtNode a (pf s) w node) :
    ∃ step, pathLocation a s w = some (step, node) := by
  obtain ⟨fl, p, f, t, h1, h2, h3, h4⟩ := h
  simp only [pf, List.getElem?_map] at h1
  obtain ⟨x, hx, h1⟩ := Option.map_eq_some_iff.1 h1
  cases h1
  exact ⟨_, pathLocation_eq_some_iff.2 ⟨x, t, hx, h3, by simp only [getNode, h2, h4, Option.bind_some], rfl⟩⟩

theorem atNode_of_pathLocation {step : StepRef} (h : pathLocation a s r = some (step, node)) :
    AtNode a (pf s) r node := by
  obtain ⟨x, t, hx, ht, hn, -⟩ := pathLocation_eq_some_iff.1 h
  obtain ⟨f, hf, hn⟩ := Option.bind_eq_some_iff.1 hn
  exact ⟨x.flow, x.path, f, t, by simp only [pf, List.getElem?_map, hx, Option.map_some], hf, ht, hn⟩

theorem FindOut.ok_walk (h : FindOut a st r (.ok st' e)) (hw : WalkAllL a (pf st.s)) : Walks a (pf st'.s) (some r) e := by
  cases h with
  | skip => exact .same hw rfl _ rfl
  | pick _ hloc evs h =>
    exact h.walk (hw.of_pf (pf_logEvents _ _ _ _)) (pf_logEvents st r _ evs ▸ atNode_of_pathLocation hloc)

theorem FindOut.err_pf (h : FindOut a st r (.err st')) : pf st'.s = pf st.s := by
  cases h with
  | noLocation => rfl
  | routeErr => exact pf_logEvents _ _ _ _

theorem visited_walk (hnode : getNode a (((st.s.runs[r]?).map (·.flow)).getD 0) d = some node)
    (hr : r < st.s.runs.length) (vc : VisitChoice) :
    AtNode a (pf (visited st r d vc).s) r node ∧
    (WalkAllL a (pf st.s) → Leads a (pf st.s) r (some (some d)) → WalkAllL a (pf (visited st r d vc).s)) := by
  simp only [List.getElem?_eq_getElem hr, Option.map_some, Option.getD_some, getNode, Option.bind_eq_some_iff] at hnode
  obtain ⟨f, hf, hn⟩ := hnode
  have h1 : (pf st.s)[r]? = some (st.s.runs[r].flow, st.s.runs[r].path) := by
    simp only [pf, List.getElem?_map, List.getElem?_eq_getElem hr, Option.map_some]
  rw [pf_visited, pf_createStep]
  refine ⟨⟨_, _, f, ⟨d, none⟩, by rw [List.getElem?_modify_eq, h1]; rfl, hf, List.getLast?_concat, hn⟩,
    fun hw hd => WalkAllL_modify _ hw h1 hf rfl (hd d rfl _ _ f h1 hf (List.getElem?_eq_some_iff.1 hn).1)⟩

theorem VisitOut.walk {step0 step : StepRef} (h : VisitOut st r node step0 (.ok st' step e)) (hw : WalkAllL a (pf st.s))
    (hat : AtNode a (pf st.s) r node) : Walks a (pf st'.s) (some r) e := by
  cases h with
  | stay => exact .same hw rfl _ rfl
  | failed => exact .same hw (pf_exitRun _ _ _) _ rfl
  | wait => exact .same hw (pf_setStatus _ _ _) _ rfl
  | pick _ h => exact h.walk hw hat

variable {l : Loop} {cur : Nat} {res : Sum Loop Result}

/-- the walk invariant at the head of the loop -/
def LWalk (a : Assets) (l : Loop) : Prop := Walks a (pf l.st.s) l.cur l.exit

def ResWalk (a : Assets) : Result → Prop := OnRet fun st => WalkAllL a (pf st.s)

theorem DestOut.walk {x : Loop × Option Nat} (h : DestOut a l x) (hl : LWalk a l) : Walks a (pf x.1.st.s) x.1.cur (some x.2) := by
  cases h with
  | push p hp s0 hs0 dest =>
    exact pushRun_walk p.flow l.cur (some dest) (hl.walk.of_pf ((congrArg pf hs0).trans (pf_ite_exitAll _ _)))
  | follow _ d h => exact ⟨hl.walk, fun c hc => h ▸ hl.link c hc⟩
  | idle => exact ⟨hl.walk, fun _ _ _ hd => nomatch hd⟩

theorem pf_finished (l : Loop) (cur : Nat) : pf (finished l cur).st.s = pf l.st.s := by
  unfold finished finishRun
  split
  · rfl
  · exact pf_exitRun _ _ _

theorem NoDestOut.walk (h : NoDestOut a l cur res)
    (hw : WalkAllL a (pf l.st.s)) (hex : l.exit = none) : IterPost (LWalk a) (ResWalk a) res := by
  cases h with
  | ended => exact hw
  | childFailed => exact .same hw (pf_failRun _ _ _) _ hex
  | noFlow => exact .same hw (pf_failRun _ _ _) _ hex
  | findErr _ _ h => exact .same hw ((pf_failRun _ _ _).trans h.err_pf) _ rfl
  | findOk _ _ h => exact h.ok_walk hw
  | tapeErr => trivial

theorem GoDestOut.walk {o : Opts}
    (h : GoDestOut a o l cur d res) (hw : WalkAllL a (pf l.st.s)) (hex : l.exit = none) (hcur : l.cur = some cur)
    (hcv : cur < l.st.s.runs.length) (hd : Leads a (pf l.st.s) cur (some (some d))) :
    IterPost (LWalk a) (ResWalk a) res := by
  cases h with
  | limit => exact .same hw (pf_failRun _ _ _) _ hex
  | noNode => exact hw
  | visitErr _ hnode vc => exact (visited_walk hnode hcv vc).2 hw hd
  | waits _ hnode vc hv =>
    obtain ⟨hat, hv'⟩ := visited_walk hnode hcv vc
    exact (hv.walk (hv' hw hd) hat).walk
  | next _ hnode vc hv =>
    obtain ⟨hat, hv'⟩ := visited_walk hnode hcv vc
    exact hcur ▸ hv.walk (hv' hw hd) hat
  | tapeErr => trivial

theorem iter_walk (a : Assets) (o : Opts) (orc : Oracle) (l : Loop) (hc : Core l) (hl : LWalk a l) :
    IterPost (LWalk a) (ResWalk a) (iter a o orc l) :=
  iter_cases hc trivial
    (fun hd _ _ _ _ hf h => h.walk ((hd.walk hl).walk.of_pf (pf_finished _ _)) hf.exit)
    (fun hd h1 hex _ hcur _ h => h.walk (hd.walk hl).walk hex hcur (h1.curValid _ hcur) ((hd.walk hl).link _ hcur))

theorem start_walk (a : Assets) (o : Opts) (orc : Oracle) : ResWalk a (start a o orc) := by
  have h0 : WalkAllL a [] := fun i fl p hi => by simp at hi
  rw [start_eq]
  split
  · exact h0
  · exact loop_core (iter_walk a o orc) trivial _ _ (Core_start orc) ⟨h0, fun c hc => by cases hc⟩

theorem pf_failSession (st : St) (w : Nat) : pf (failSession st w).s = pf st.s :=
  (pf_map _ (fun x => by split <;> rfl) _).trans (pf_failRun st w none)

theorem pf_baseApply (orc : Oracle) (st : St) (r : Nat) (step : StepRef) :
    pf (baseApply orc st r step).s = pf st.s := by
  unfold baseApply
  simp only
  split
  · exact (pf_setStatus _ _ _).trans (pf_logEvents _ _ _ _)
  · exact pf_logEvents _ _ _ _

theorem pf_applyResume (orc : Oracle) (st : St) (r : Nat) (step : StepRef) (k : ResumeKind) :
    pf (applyResume orc st r step k).s = pf st.s := by
  unfold applyResume
  simp only
  rw [pf_logEvents]
  cases k <;> simp only [pf_logEvent, pf_baseApply, pf_exitRun]

theorem resume_walk (a : Assets) (o : Opts) (orc : Oracle) (s : Session) (k : ResumeKind)
    (hok : SessOK s) (hpush : s.pushed = none) (hpbc : PBC s) (hw : WalkAllL a (pf s)) :
    ResWalk a (resume a o orc s k) := by
  have hr := resume_out a o orc s k
  generalize resume a o orc s k = res at hr
  cases hr with
  | rejected => trivial
  | tapeErr => trivial
  | unrecoverable w => exact hw.of_pf (pf_failSession _ w)
  | findErr _ _ hf => exact hw.of_pf ((pf_failSession _ _).trans (hf.err_pf.trans (pf_applyResume _ _ _ _ _)))
  | loop hwr _ hf =>
    exact loop_core (iter_walk a o orc) trivial _ _ (Core_resume hok hpush hpbc hwr hf)
      (hf.ok_walk (hw.of_pf (pf_applyResume _ _ _ _ _)))

end GoflowModel.Engine
