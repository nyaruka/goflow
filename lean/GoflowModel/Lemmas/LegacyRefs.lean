import GoflowModel.Excellent.LegacyRefs
import GoflowModel.Lemmas.LegacyFull
import GoflowModel.Lemmas.ExprParseShape
/-! Every migrated context reference is an atom of the new language in the shape the parser
produces (names as the printer writes them: lower case), so wherever the visitor substitutes it no
parentheses are needed and its printed tokens parse back to the same tree. -/
namespace GoflowModel.LegacyRefs
open GoflowModel.Expr GoflowModel.Expr.Full GoflowModel.LegacyFull

/-- parser-shaped (names lowered) and an atom: what `parser_shape` says of the results of `parseAtom` and `parseSuffix` -/
def GA (e : Expr) : Prop := ShapeE e ∧ isAtom e = true

theorem ga_ref (r : Seg) : GA (.ref r) := ⟨.ref (lowerName_idem r), rfl⟩

theorem ga_dot {c : Expr} (h : GA c) (l : Seg) : GA (.dot c l) :=
  ⟨.dot h.1 ((isAtom_norm c).trans h.2), rfl⟩

theorem ga_idx {c i : Expr} (h : GA c) (hi : ShapeE i) : GA (.idx c i) :=
  ⟨.idx h.1 ((isAtom_norm c).trans h.2) hi, rfl⟩

theorem shapeE_of_ga {e : Expr} (h : GA e) : ShapeE e := h.1

theorem shapeE_text (v : List Char) : ShapeE (.text v) := (good_text v).1

theorem shapeE_num {d : List Char} (h : numValue d = d) : ShapeE (.num d) := (good_num h).1

theorem shapeE_neg_num {d : List Char} (h : numValue d = d) : ShapeE (.neg (.num d)) := (good_neg (good_num h) (Nat.le_succ 13)).1

theorem ga_look {c : Expr} (h : GA c) (s : Seg) : GA (look c s) := by
  unfold look
  split
  · split
    · exact ga_idx h (shapeE_text _)
    · exact ga_dot h _
  · exact ga_dot h _

theorem ga_foldl {f : Expr → Seg → Expr} (hf : ∀ {c}, GA c → ∀ s, GA (f c s)) :
    ∀ (ls : List Seg) (c : Expr), GA c → GA (ls.foldl f c)
  | [], _, h => h
  | l :: ls, _, h => ga_foldl hf ls _ (hf h l)

theorem ga_pathOf : ∀ segs : List Seg, GA (pathOf segs)
  | [] => ga_ref _
  | r :: ls => ga_foldl ga_look ls _ (ga_ref r)

theorem ga_rawPath : ∀ segs : List Seg, GA (rawPath segs)
  | [] => ga_ref _
  | r :: ls => ga_foldl ga_dot ls _ (ga_ref r)

/-- a list of parameters, each shown to be parser-shaped -/
def Params (args : List Expr) : Prop := Shape (.a (normArgs (toArgs args)))

theorem Params.nil : Params [] := .argsNil
theorem Params.cons {a : Expr} {l : List Expr} (ha : ShapeE a) (hl : Params l) : Params (a :: l) := .argsCons ha hl

theorem ga_fn (name : String) {args : List Expr} (h : Params args) : GA (fn name args) :=
  ⟨.call (.ref (lowerName_idem _)) rfl h, rfl⟩

theorem ga_dated (raw : Bool) {e : Expr} (h : GA e) : GA (dated raw e) := by
  unfold dated
  split
  · exact h
  · exact ga_fn _ (.cons h.1 .nil)

/-- an index into the attachments is a number as it renders -/
def IndexOK (segs : List Seg) : Prop := ∀ d ∈ segs, isDigits d = true → numValue d = d

inductive GAOpt : Option Expr → Prop
  | none : GAOpt none
  | some {e} : GA e → GAOpt (Option.some e)

theorem GAOpt.ite {c : Prop} [Decidable c] {a b : Option Expr} (ha : GAOpt a) (hb : GAOpt b) : GAOpt (if c then a else b) := by
  split <;> assumption

theorem GAOpt.ga {o : Option Expr} {e : Expr} (h : GAOpt o) (he : o = .some e) : GA e := by
  cases he; cases h; assumption

/-! Each rule is a tree of `match`es and `if`s; `GAOpt.ite` descends it without looking at the
conditions, and every leaf is `none` or one of the atoms above. -/

theorem gaOpt_contactRule (schemes pfx rest : List Seg) : GAOpt (contactRule schemes pfx rest) := by
  unfold contactRule
  split <;> repeat' apply GAOpt.ite
  all_goals apply_rules [GAOpt.none, GAOpt.some, ga_pathOf, ga_fn, ga_dot, shapeE_text, shapeE_of_ga, Params.cons, Params.nil]

theorem gaOpt_contactGroup (schemes segs : List Seg) : GAOpt (contactGroup schemes segs) := by
  unfold contactGroup
  extract_lets s1
  clear_value s1
  split <;> repeat' apply GAOpt.ite
  all_goals apply_rules [GAOpt.none, gaOpt_contactRule]

theorem gaOpt_resultsRule (root rest : List Seg) : GAOpt (resultsRule root rest) := by
  unfold resultsRule
  split <;> repeat' apply GAOpt.ite
  all_goals apply_rules [GAOpt.none, GAOpt.some, ga_pathOf]

theorem gaOpt_extraRule (rest : List Seg) : GAOpt (extraRule rest) := by
  unfold extraRule
  split
  · apply GAOpt.ite
    · split
      next e he => exact .some ((gaOpt_resultsRule _ _).ga he)
      · exact .some (ga_pathOf _)
    · exact .some (ga_pathOf _)
  · exact .some (ga_pathOf _)

theorem gaOpt_stepRule (rest : List Seg) (hi : IndexOK rest) : GAOpt (stepRule rest) := by
  unfold stepRule
  split
  · exact .some (ga_pathOf _)
  · repeat' apply GAOpt.ite
    all_goals apply_rules [GAOpt.none, GAOpt.some, ga_pathOf, ga_fn, ga_ref, shapeE_text, shapeE_of_ga, Params.cons, Params.nil]
  next p d =>
    split
    next hc => exact .some (ga_dot (ga_fn _ (.cons (ga_idx (ga_pathOf _) (shapeE_num (hi d (by simp) hc.2))).1 .nil)) _)
    · exact .none
  · exact .none

theorem gaOpt_channelRule (rest : List Seg) : GAOpt (channelRule rest) := by
  unfold channelRule
  split <;> repeat' apply GAOpt.ite
  all_goals apply_rules [GAOpt.none, GAOpt.some, ga_pathOf]

theorem gaOpt_dateRule (raw : Bool) (rest : List Seg) : GAOpt (dateRule raw rest) := by
  unfold dateRule
  split <;> repeat' apply GAOpt.ite
  all_goals apply_rules [GAOpt.none, GAOpt.some, ga_dated, ga_fn, shapeE_text, shapeE_num, shapeE_neg_num, numValue_one,
    shapeE_of_ga, Params.cons, Params.nil]

theorem gaOpt_otherRules (raw : Bool) (segs : List Seg) (hi : IndexOK segs) : GAOpt (otherRules raw segs) := by
  unfold otherRules
  split
  next h rest =>
    -- for `gaOpt_stepRule`, the one rule that looks at indices
    have hrest : IndexOK rest := fun d hd => hi d (List.mem_cons_of_mem _ hd)
    repeat' apply GAOpt.ite
    all_goals apply_rules [GAOpt.none, gaOpt_resultsRule, gaOpt_extraRule, gaOpt_stepRule, gaOpt_channelRule, gaOpt_dateRule]
  · exact .none

theorem ga_migRef (schemes : List Seg) (raw : Bool) (segs : List Seg) (hi : IndexOK segs) : GA (migRef schemes raw segs) := by
  unfold migRef
  split
  next e he => exact (gaOpt_contactGroup _ _).ga he
  · split
    next e he => exact (gaOpt_otherRules _ _ hi).ga he
    · exact ga_rawPath _

end GoflowModel.LegacyRefs
