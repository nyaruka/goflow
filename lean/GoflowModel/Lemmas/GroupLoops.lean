import GoflowModel.Contact.Model
/-!
`reevalLoop` element-wise, and the two loops of the groups modifier as instances of it (a re-evaluation in which every
static group named matches, or none does), so that what is proved of re-evaluation holds of them.
-/
namespace GoflowModel.Contact

theorem reevalLoop_spec (m : Nat → Bool) (gs qs : List Nat) (x : Nat) :
    (x ∈ (reevalLoop m gs qs).1 ↔ (x ∈ gs ∧ ¬ (x ∈ qs ∧ m x = false)) ∨ (x ∈ qs ∧ m x = true)) ∧
    (x ∈ (reevalLoop m gs qs).2.1 ↔ x ∈ qs ∧ m x = true ∧ x ∉ gs) ∧
    (x ∈ (reevalLoop m gs qs).2.2 ↔ x ∈ qs ∧ m x = false ∧ x ∈ gs) := by
  induction qs generalizing gs with
  | nil => simp [reevalLoop]
  | cons g l ih =>
    -- in each of the four branches the induction hypothesis turns the claim into one about `x = g`, `x ∈ l`, `x ∈ gs`
    unfold reevalLoop
    cases hm : m g <;> cases hc : gs.contains g
    all_goals
      simp only [ih, List.mem_cons, List.mem_append, List.mem_filter, decide_eq_true_eq, List.contains_eq_mem,
        decide_eq_false_iff_not, Bool.false_eq_true, if_true, if_false] at *
      clear ih
      by_cases e : x = g <;> simp [e, hm, hc]

theorem reevalLoop_again (m : Nat → Bool) (gs qs : List Nat) :
    (reevalLoop m (reevalLoop m gs qs).1 qs).2.1 = [] ∧ (reevalLoop m (reevalLoop m gs qs).1 qs).2.2 = [] := by
  refine ⟨List.eq_nil_iff_forall_not_mem.2 fun x hx => ?_, List.eq_nil_iff_forall_not_mem.2 fun x hx => ?_⟩
  · obtain ⟨hq, hm, hout⟩ := (reevalLoop_spec m _ qs x).2.1.1 hx
    exact hout ((reevalLoop_spec m gs qs x).1.2 (.inr ⟨hq, hm⟩))
  · obtain ⟨hq, hm, hin⟩ := (reevalLoop_spec m _ qs x).2.2.1 hx
    rcases (reevalLoop_spec m gs qs x).1.1 hin with h | h
    · exact h.2 ⟨hq, hm⟩
    · exact absurd (h.2.symm.trans hm) nofun

theorem groupsAddLoop_eq_reevalLoop (isQuery : Nat → Bool) (gs l : List Nat) :
    (groupsAddLoop isQuery gs l).1 = (reevalLoop (fun _ => true) gs (l.filter (!isQuery ·))).1 ∧
    (groupsAddLoop isQuery gs l).2.1 = (reevalLoop (fun _ => true) gs (l.filter (!isQuery ·))).2.1 ∧
    (groupsAddLoop isQuery gs l).2.2 = (l.filter isQuery).map fun _ => .error := by
  induction l generalizing gs with
  | nil => exact ⟨rfl, rfl, rfl⟩
  | cons g l ih =>
    rw [groupsAddLoop, List.filter_cons, List.filter_cons]
    cases isQuery g
    · simp only [Bool.not_false, Bool.false_eq_true, if_true, if_false, reevalLoop]
      cases gs.contains g
      · exact ⟨(ih _).1, congrArg (g :: ·) (ih _).2.1, (ih _).2.2⟩
      · exact ih gs
    · exact ⟨(ih gs).1, (ih gs).2.1, congrArg (Ev.error :: ·) (ih gs).2.2⟩

theorem groupsRemoveLoop_eq_reevalLoop (isQuery : Nat → Bool) (gs l : List Nat) :
    (groupsRemoveLoop isQuery gs l).1 = (reevalLoop (fun _ => false) gs (l.filter (!isQuery ·))).1 ∧
    (groupsRemoveLoop isQuery gs l).2.1 = (reevalLoop (fun _ => false) gs (l.filter (!isQuery ·))).2.2 ∧
    (groupsRemoveLoop isQuery gs l).2.2 = (l.filter isQuery).map fun _ => .error := by
  induction l generalizing gs with
  | nil => exact ⟨rfl, rfl, rfl⟩
  | cons g l ih =>
    rw [groupsRemoveLoop, List.filter_cons, List.filter_cons]
    cases isQuery g
    · simp only [Bool.not_false, Bool.false_eq_true, if_true, if_false, reevalLoop]
      cases gs.contains g
      · exact ih gs
      · exact ⟨(ih _).1, congrArg (g :: ·) (ih _).2.1, (ih _).2.2⟩
    · exact ⟨(ih gs).1, (ih gs).2.1, congrArg (Ev.error :: ·) (ih gs).2.2⟩

end GoflowModel.Contact
