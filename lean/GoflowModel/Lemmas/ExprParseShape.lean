import GoflowModel.Lemmas.ExprParseFull
import GoflowModel.Lemmas.Quote
import GoflowModel.Lemmas.NumValue
import GoflowModel.Excellent.Eval
/-!
Whatever the parser returns is in the shape `Shape` — up to the case of the names, which printing
lowers (`norm`).  Together with completeness this closes the loop: for every token list the parser
accepts, printing the tree and parsing the printed tokens gives the same tree with lowered names.
-/
namespace GoflowModel.Expr.Full
open GoflowModel.Expr

theorem toLower_idem (c : Char) : c.toLower.toLower = c.toLower := by
  simp only [Char.toLower]
  split
  · split
    · next h1 h2 =>
      simp only [UInt32.le_iff_toNat_le, UInt32.toNat_add, seval] at h1 h2
      omega
    · simp
  · rfl

theorem lowerName_idem (n : List Char) : lowerName (lowerName n) = lowerName n := by
  simp [lowerName, toLower_idem]

mutual
  /-- references with their names lowered, as the printer writes them -/
  def norm : Expr → Expr
    | .ref n => .ref (lowerName n)
    | .dot c l => .dot (norm c) l
    | .idx c e => .idx (norm c) (norm e)
    | .call f ps => .call (norm f) (normArgs ps)
    | .lam args b => .lam args (norm b)
    | .bin o l r => .bin o (norm l) (norm r)
    | .neg e => .neg (norm e)
    | .paren e => .paren (norm e)
    | e => e
  def normArgs : Args → Args
    | .nil => .nil
    | .cons e rest => .cons (norm e) (normArgs rest)
end

theorem level_norm (e : Expr) : level (norm e) = level e := by cases e <;> rfl
theorem isAtom_norm (e : Expr) : isAtom (norm e) = isAtom e := by cases e <;> rfl

theorem edge_norm : ∀ e : Expr, edge (norm e) = edge e
  | .bin o l r => by simp only [norm, edge, edge_norm r]
  | .neg e => by simp only [norm, edge, edge_norm e]
  | .ref _ | .dot _ _ | .idx _ _ | .call _ _ | .lam _ _ | .paren _ | .text _ | .num _ | .bool _ | .null => rfl

theorem atom_level {e : Expr} (h : isAtom e = true) : level e = 14 ∧ edge e = 14 := by
  cases e
  case bin | neg | lam | text | num | bool | null => cases h
  all_goals exact ⟨rfl, rfl⟩

theorem lamHead_names_ne_nil {args : List (List Char)} {rest : List Tok} :
    ∀ (acc : List (List Char)) (ts : List Tok), acc ≠ [] → lamHead.names acc ts = some (args, rest) → args ≠ [] := by
  intro acc ts
  fun_induction lamHead.names acc ts with
  | case1 acc b r ih => intro _ h; exact ih (by simp) h
  | case2 acc r => intro hacc h; cases h; exact hacc
  | case3 acc ts h1 h2 => intro _ h; cases h

theorem lamHead_ne_nil {ts : List Tok} {args : List (List Char)} {rest : List Tok}
    (h : lamHead ts = some (args, rest)) : args ≠ [] := by
  unfold lamHead at h
  split at h
  · exact lamHead_names_ne_nil _ _ (by simp) h
  · cases h

theorem literalValue_quote (hpr : Tables.isPrint '\n' = false) (v : List Char) :
    Quote.literalValue (Quote.quote Tables.isPrint v) = some v := by
  simp [Quote.literalValue, Quote.unquote_quote Tables.isPrint hpr v]

def ShapeE (e : Expr) : Prop := Shape (.e (norm e))

theorem parser_shape (hpr : Tables.isPrint '\n' = false) (f : Nat) :
    (∀ p ts e rest, parseExpr f p ts = some (e, rest) → p ≤ 13 → ShapeE e ∧ p ≤ level e ∧ FollowP p e rest) ∧
    (∀ p l ts e rest, parseOps f p l ts = some (e, rest) → p ≤ 13 → ShapeE l → p ≤ level l → Follow l ts →
      ShapeE e ∧ p ≤ level e ∧ FollowP p e rest) ∧
    (∀ ts e rest, parsePrimary f ts = some (e, rest) → ShapeE e ∧ 13 ≤ level e ∧ Follow e rest) ∧
    (∀ ts e rest, parseAtom f ts = some (e, rest) → ShapeE e ∧ isAtom e = true) ∧
    (∀ a ts e rest, parseSuffix f a ts = some (e, rest) → ShapeE a → isAtom a = true → ShapeE e ∧ isAtom e = true) ∧
    (∀ ts ps rest, parseArgs f ts = some (ps, rest) → Shape (.a (normArgs ps))) := by
  induction f with
  | zero => exact ⟨nofun, nofun, nofun, nofun, nofun, nofun⟩
  | succ f ih =>
    obtain ⟨ihE, ihO, ihP, ihA, ihS, ihG⟩ := ih
    refine ⟨?_, ?_, ?_, ?_, ?_, ?_⟩
    · intro p ts e rest h hp
      simp only [parseExpr] at h
      split at h
      · cases h
      next l r1 hl =>
        obtain ⟨h1, h2, h3⟩ := ihP ts l r1 hl
        exact ihO p l r1 e rest h hp h1 (by omega) h3
    · intro p l ts e rest h hp hl hlv hfo
      simp only [parseOps] at h
      split at h
      next o rest0 =>
        split at h
        next hpo =>
          split at h
          · cases h
          next r rest1 hr =>
            obtain ⟨r1, r2, r3⟩ := ihE (o.prec + 1) rest0 r rest1 hr (Nat.succ_le_succ (prec_le_12 o))
            exact ihO p (.bin o l r) rest1 e rest h hp
              (.bin hl r1 (edge_norm l ▸ hfo o rest0 rfl) (level_norm r ▸ r2)) hpo (follow_bin.2 r3)
        next hlt =>
          cases h
          exact ⟨hl, hlv, fun q tl hq => by cases hq; exact ⟨Nat.lt_of_not_le hlt, hfo _ _ rfl⟩⟩
      next hno =>
        cases h
        exact ⟨hl, hlv, fun q tl hq => absurd hq (hno q tl)⟩
    · -- a literal or an atom: any operator may follow
      have prim {e : Expr} {rest : List Tok} (hs : ShapeE e) (he : edge e = 14) : ShapeE e ∧ 13 ≤ level e ∧ Follow e rest :=
        ⟨hs, by have := edge_le_level e; omega, fun q _ _ => he ▸ Nat.le_of_lt (prec_lt_14 q)⟩
      intro ts e rest h
      simp only [parsePrimary] at h
      split at h
      next rest0 =>
        split at h
        · cases h
        next e1 rest1 he1 =>
          cases h
          obtain ⟨r1, r2, r3⟩ := ihE 13 rest0 e1 rest he1 (Nat.le_refl _)
          exact ⟨.neg r1 (level_norm e1 ▸ r2), Nat.le_refl 13, follow_neg.2 r3⟩
      · split at h
        · cases h
          exact prim (.text (literalValue_quote hpr _)) rfl
        · cases h
      -- the tokens `.int`, `.dec`, `.tru`, `.fls`, `.null`
      · cases h; exact prim (.num (numValue_idem _)) rfl
      · cases h; exact prim (.num (numValue_idem _)) rfl
      · cases h; exact prim .tru rfl
      · cases h; exact prim .fls rfl
      · cases h; exact prim .null rfl
      · split at h
        next args rest0 hlam =>
          split at h
          · cases h
          next b rest1 hb =>
            cases h
            obtain ⟨r1, _, r3⟩ := ihE 6 rest0 b rest hb (by omega)
            exact ⟨.lam (lamHead_ne_nil hlam) r1, Nat.le_succ 13, follow_lam.2 r3⟩
        · obtain ⟨r1, r2⟩ := ihA ts e rest h
          exact prim r1 (atom_level r2).2
    · intro ts e rest h
      simp only [parseAtom] at h
      split at h
      next n rest0 => exact ihS _ _ e rest h (.ref (lowerName_idem n)) rfl
      next rest0 =>
        split at h
        next e1 rest1 he1 => exact ihS _ _ e rest h (.paren (ihE 0 rest0 e1 _ he1 (by omega)).1) rfl
        · cases h
      · cases h
    · intro a ts e rest h ha hat
      have hat' := isAtom_norm a ▸ hat
      simp only [parseSuffix] at h
      split at h
      · exact ihS _ _ e rest h (.dot ha hat') rfl
      · exact ihS _ _ e rest h (.dot ha hat') rfl
      next rest0 =>
        split at h
        next i rest1 hi => exact ihS _ _ e rest h (.idx ha hat' (ihE 0 rest0 i _ hi (by omega)).1) rfl
        · cases h
      · exact ihS _ _ e rest h (.call ha hat' .argsNil) rfl
      next rest0 hnot =>  -- `hnot`: `rest0` does not begin with `)`
        split at h
        next ps rest1 hps => exact ihS _ _ e rest h (.call ha hat' (ihG rest0 ps _ hps)) rfl
        · cases h
      · cases h; exact ⟨ha, hat⟩
    · intro ts ps rest h
      simp only [parseArgs] at h
      split at h
      · cases h
      next e1 rest0 he1 =>
        split at h
        · cases h
        next more rest1 hm =>
          cases h
          exact .argsCons (ihE 0 ts e1 _ he1 (by omega)).1 (ihG rest0 more rest hm)
      next e1 rest0 hnocomma he1 =>
        cases h
        exact .argsCons (ihE 0 ts e1 rest he1 (by omega)).1 .argsNil

mutual
  theorem toks_norm : ∀ e : Expr, toks (norm e) = toks e
    | .ref n => by simp only [norm, toks, lowerName_idem]
    | .dot c l => by simp only [norm, toks, toks_norm c]
    | .idx c e => by simp only [norm, toks, toks_norm c, toks_norm e]
    | .call f ps => by simp only [norm, toks, toks_norm f, argToks_norm ps]
    | .lam args b => by simp only [norm, toks, toks_norm b]
    | .bin o l r => by simp only [norm, toks, toks_norm l, toks_norm r]
    | .neg e => by simp only [norm, toks, toks_norm e]
    | .paren e => by simp only [norm, toks, toks_norm e]
    | .text _ | .num _ | .bool _ | .null => rfl
  theorem argToks_norm : ∀ ps : Args, argToks (normArgs ps) = argToks ps
    | .nil => rfl
    | .cons e .nil => by simp only [normArgs, argToks, toks_norm e]
    | .cons e (.cons e2 more) => by
      have h := argToks_norm (.cons e2 more)
      simp only [normArgs, argToks, toks_norm e] at h ⊢
      rw [h]
end

mutual
  theorem eval_norm {V : Type} (S : Sem V) : ∀ (ρ : Env V) (e : Expr), eval S ρ (norm e) = eval S ρ e
    | ρ, .ref n => by simp only [norm, eval, lowerName_idem]
    | ρ, .dot c l => by simp only [norm, eval, eval_norm S ρ c]
    | ρ, .idx c e => by simp only [norm, eval, eval_norm S ρ c, eval_norm S ρ e]
    | ρ, .call f ps => by simp only [norm, eval, eval_norm S ρ f, evalArgs_norm S ρ ps]
    | ρ, .lam args b => by simp only [norm, eval, fun ρ => eval_norm S ρ b]
    | ρ, .bin o l r => by simp only [norm, eval, eval_norm S ρ l, eval_norm S ρ r]
    | ρ, .neg e => by simp only [norm, eval, eval_norm S ρ e]
    | ρ, .paren e => by simp only [norm, eval, eval_norm S ρ e]
    | _, .text _ | _, .num _ | _, .bool _ | _, .null => rfl
  theorem evalArgs_norm {V : Type} (S : Sem V) : ∀ (ρ : Env V) (ps : Args), evalArgs S ρ (normArgs ps) = evalArgs S ρ ps
    | _, .nil => rfl
    | ρ, .cons e rest => by simp only [normArgs, evalArgs, eval_norm S ρ e, evalArgs_norm S ρ rest]
end

end GoflowModel.Expr.Full
