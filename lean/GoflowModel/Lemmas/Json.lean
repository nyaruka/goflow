import GoflowModel.Basic.Json
import GoflowModel.Lemmas.NumValue
/-! The round trip of a JSON document through `parse_json` and `json()` keeps what it denotes. -/
namespace GoflowModel.Json
open GoflowModel.Dec GoflowModel.Props.C13 GoflowModel.Expr

theorem match_id (o : Option X) : (match o with | some x => some x | none => none) = o := by cases o <;> rfl

theorem semO_eraseAll (k : List Char) : ∀ (m : JO) (q : List Char),
    semO (eraseAll k m) q = if q = k then none else semO m q
  | .nil, q => by simp [eraseAll, semO]
  | .cons k' v rest, q => by
    have ih := semO_eraseAll k rest q
    grind [eraseAll, semO]

theorem semO_ins (k : List Char) (v : J) : ∀ (m : JO) (q : List Char),
    semO (ins k v m) q = if q = k then some (sem v) else semO m q
  | .nil, q => by simp [ins, semO, eq_comm]
  | .cons k' v' rest, q => by
    have ih := semO_ins k v rest q
    grind [ins, semO, semO_eraseAll]

theorem norm_reparse (d : Dec) (h : NumOK d) : Dec.norm (reparse d) = Dec.norm d := by
  obtain ⟨p, hp, hn⟩ := parse_render_canon h.2
  simp only [reparse, hp, Option.getD_some, hn]

mutual
  /-- **The round trip keeps what the document denotes**: numbers by value, objects as maps -/
  theorem sem_rt : ∀ j : J, NoDefault j → NumsOK j → sem (rt j) = sem j
    | .null, _, _ => rfl
    | .bool _, _, _ => rfl
    | .num d, _, h => by simp only [rt, sem]; rw [norm_reparse d h]
    | .str _, _, _ => rfl
    | .arr l, h1, h2 => by simp only [rt, sem]; rw [semL_rtL l h1 h2]
    | .obj l, h1, h2 => by
      simp only [rt, sem]
      rw [semO_rtO .nil l h1 h2]
      exact congrArg X.obj (funext fun q => match_id (semO l q))
  theorem semL_rtL : ∀ l : JL, NoDefaultL l → NumsOKL l → semL (rtL l) = semL l
    | .nil, _, _ => rfl
    | .cons x rest, h1, h2 => by
      simp only [rtL, semL]
      rw [sem_rt x h1.1 h2.1, semL_rtL rest h1.2 h2.2]
  theorem semO_rtO : ∀ (acc : JO) (l : JO), NoDefaultO l → NumsOKO l →
      semO (rtO acc l) = fun q => match semO l q with | some x => some x | none => semO acc q
    | acc, .nil, _, _ => by funext q; simp [rtO, semO]
    | acc, .cons k v rest, h1, h2 => by
      simp only [rtO, h1.1, if_false]
      rw [semO_rtO (ins k (rt v) acc) rest h1.2.2 h2.2]
      funext q
      rw [semO_ins, sem_rt v h1.2.1 h2.1]
      grind [semO]
end

end GoflowModel.Json
