import GoflowModel.Engine.Model
/-!
How each function of the engine model can return: one inductive predicate per function lists the ways out, each with
the state it leaves and those tests the code made on the way that the invariants need.  A property of the engine is
proved by `cases` on them.
-/
namespace GoflowModel.Engine

variable {a : Assets} {o : Opts} {orc : Oracle} {l : Loop} {s : Session} {st st' : St} {r cur : Nat} {node : Node}
  {step : StepRef} {e : Option (Option Nat)} {res : Sum Loop Result}

/-- `st` is the state with the router's events logged -/
inductive PickOut (st : St) (r : Nat) (node : Node) (step : StepRef) : PickResult → Prop
  | goErr : PickOut st r node step (.goErr st)
  | noCategory : PickOut st r node step (.ok (failRun st r (some step)) none)
  | noExit : PickOut st r node step (.ok { st with s := leave st.s r none } none)
  | exit (e : Nat) (dest : Option Nat) (h : node.exits[e]? = some dest) :
      PickOut st r node step (.ok { st with s := leave st.s r (some e) } (some dest))
  | tapeErr (w : Nat) : PickOut st r node step (.tapeErr w)

theorem pickNodeExit_out (st : St) (r : Nat) (node : Node) (step : StepRef) (evs : List EvK) (c : RouteChoice) :
    PickOut (logEvents st r (some step) evs) r node step (pickNodeExit st r node step evs c) := by
  unfold pickNodeExit
  simp only
  split
  next =>  -- a router: the choice names an exit
    split
    next => exact .goErr
    next => exact .noCategory
    next e =>
      split
      next dest hdest => exact .exit e dest hdest
      next => exact .tapeErr _
    next => exact .tapeErr _
  next =>  -- no router: the first exit, if there is one
    split
    next e =>
      split
      next hnil =>
        split
        next he => subst he; exact .noExit
        next => exact .tapeErr _
      next dest rest hcons =>
        split
        next he => subst he; exact .exit 0 dest (by rw [hcons]; rfl)
        next => exact .tapeErr _
    next => exact .tapeErr _

/-- the state in which `visitNode` has created the step and run the actions -/
def visited (st : St) (r d : Nat) (vc : VisitChoice) : St :=
  setPushedOpt (logEvents (createStep st r d).1 r (some (createStep st r d).2) vc.events) vc.pushed

/-- `st` is the `visited` state -/
inductive VisitOut (st : St) (r : Nat) (node : Node) (step : StepRef) : VisitResult → Prop
  | goErr : VisitOut st r node step (.goErr st)
  /-- the trigger could not initialise the run, or a flow was pushed -/
  | stay : VisitOut st r node step (.ok st step none)
  | failed : VisitOut st r node step (.ok { st with s := { exitRun st.s r .failed with pushed := none } } step none)
  | wait (hp : st.s.pushed = none) (hr : node.hasRouter = true) (hw : node.wait.isSome = true) :
      VisitOut st r node step (.ok { st with s := { setStatus st.s r .waiting with status := .waiting } } step none)
  | pick (hp : st.s.pushed = none) {st' : St} {e : Option (Option Nat)} (h : PickOut st r node step (.ok st' e)) :
      VisitOut st r node step (.ok st' step e)
  | tapeErr (w : Nat) : VisitOut st r node step (.tapeErr w)

theorem visitNode_out (st : St) (r d : Nat) (node : Node) (vc : VisitChoice) :
    VisitOut (visited st r d vc) r node (createStep st r d).2 (visitNode st r d node vc) := by
  show VisitOut (visited st r d vc) r node _ (visitTail (visited st r d vc) r node _ vc)
  generalize visited st r d vc = st0
  unfold visitTail
  split
  next => exact .goErr
  next => exact .stay
  next => exact .failed
  next =>
    split
    next => exact .stay
    next hp =>
      have hp : st0.s.pushed = none := by simpa using hp
      split
      next wk hw hbegin =>
        -- `hw : (if node.hasRouter = true then node.wait else none) = some wk`
        cases hr : node.hasRouter with
        | false => rw [hr] at hw; cases hw
        | true => rw [hr, if_pos rfl] at hw; exact .wait hp hr (by rw [hw]; rfl)
      next =>
        have := pickNodeExit_out st0 r node (createStep st r d).2 [] vc.route
        split
        next h => rw [h] at this; cases this; exact .goErr
        next h => rw [h] at this; exact .pick hp this
        next => exact .tapeErr _

inductive FindOut (a : Assets) (st : St) (r : Nat) : FindResult → Prop
  | skip (h : runStatus st.s r ≠ some .active) : FindOut a st r (.ok st none)
  | noLocation : FindOut a st r (.err st)
  | routeErr {step : StepRef} {node : Node} (hloc : pathLocation a st.s r = some (step, node)) (evs : List EvK) :
      FindOut a st r (.err (logEvents st r (some step) evs))
  | pick (hact : runStatus st.s r = some .active) {step : StepRef} {node : Node}
      (hloc : pathLocation a st.s r = some (step, node)) (evs : List EvK) {st' : St} {e : Option (Option Nat)}
      (h : PickOut (logEvents st r (some step) evs) r node step (.ok st' e)) : FindOut a st r (.ok st' e)
  | tapeErr (w : Nat) : FindOut a st r (.tapeErr w)

theorem findResumeExit_out (a : Assets) (orc : Oracle) (st : St) (r : Nat) :
    FindOut a st r (findResumeExit a orc st r) := by
  unfold findResumeExit
  split
  next hna => exact .skip hna
  next hact =>
    have hact : runStatus st.s r = some .active := by simpa using hact
    split
    next => exact .noLocation
    next step node hloc =>
      split
      next rr hrr =>
        have := pickNodeExit_out st r node step rr.events rr.route
        split
        next h => rw [h] at this; cases this; exact .routeErr hloc _
        next h => rw [h] at this; exact .pick hact hloc _ this
        next => exact .tapeErr _
      next => exact .tapeErr _

/-- the run `session.PushFlow` adds -/
def pushRun (s : Session) (flow : Nat) (parent : Option Nat) : Session :=
  { s with runs := s.runs ++ [⟨flow, parent, .active, false, [], []⟩], pushed := none }

inductive DestOut (a : Assets) (l : Loop) : Loop × Option Nat → Prop
  | push (p : Pushed) (h : l.st.s.pushed = some p) (s0 : Session)
      (hs0 : s0 = if p.terminal then exitAll l.st.s else l.st.s) (dest : Option Nat) :
      DestOut a l ({ l with st := { l.st with s := pushRun s0 p.flow l.cur }, cur := some s0.runs.length, step := none }, dest)
  | follow (hp : l.st.s.pushed = none) (d : Option Nat) (h : l.exit = some d) : DestOut a l ({ l with exit := none }, d)
  | idle (hp : l.st.s.pushed = none) (h : l.exit = none) : DestOut a l (l, none)

theorem pickDest_out (a : Assets) (l : Loop) : DestOut a l (pickDest a l) := by
  unfold pickDest
  split
  next p hp => exact .push p hp _ rfl _
  next hp =>
    split
    next d hd => exact .follow hp d hd
    next hd => exact .idle hp hd

theorem DestOut.n {x : Loop × Option Nat} (h : DestOut a l x) : x.1.n = l.n := by
  cases h <;> rfl

/-- the current run is done: `if currentRun.ExitedOn() == nil { currentRun.Exit(completed) }` -/
def finishRun (s : Session) (cur : Nat) : Session :=
  if ((s.runs[cur]?).map (·.exited)).getD true then s else exitRun s cur .completed

def finished (l : Loop) (cur : Nat) : Loop := { l with st := { l.st with s := finishRun l.st.s cur } }

def toParent (a : Assets) (l : Loop) (p : Nat) : Loop :=
  { l with cur := some p, step := (pathLocation a l.st.s p).map Prod.fst }

/-- `l` is the `finished` loop state -/
inductive NoDestOut (a : Assets) (l : Loop) (cur : Nat) : Sum Loop Result → Prop
  | ended (h : ∀ p, (l.st.s.runs[cur]?).bind (·.parent) = some p → runStatus l.st.s p ≠ some .active) :
      NoDestOut a l cur (.inr (.ok { l.st with s := { l.st.s with status := endStatus l.st.s cur } }))
  | childFailed {p : Nat} (hpar : (l.st.s.runs[cur]?).bind (·.parent) = some p)
      (hact : runStatus l.st.s p = some .active) (hcf : runStatus l.st.s cur = some .failed) :
      NoDestOut a l cur (.inl { toParent a l p with st := failRun l.st p (toParent a l p).step })
  | noFlow {p : Nat} (hpar : (l.st.s.runs[cur]?).bind (·.parent) = some p)
      (hact : runStatus l.st.s p = some .active) (hcf : runStatus l.st.s cur ≠ some .failed) :
      NoDestOut a l cur (.inl { toParent a l p with st := failRun l.st p none })
  | findErr {p : Nat} (hpar : (l.st.s.runs[cur]?).bind (·.parent) = some p)
      (hact : runStatus l.st.s p = some .active) {st' : St} (h : FindOut a l.st p (.err st'))
      (hcf : runStatus l.st.s cur ≠ some .failed) :
      NoDestOut a l cur (.inl { toParent a l p with st := failRun st' p none, exit := none })
  | findOk {p : Nat} (hpar : (l.st.s.runs[cur]?).bind (·.parent) = some p)
      (hact : runStatus l.st.s p = some .active) {st' : St} {e : Option (Option Nat)}
      (h : FindOut a l.st p (.ok st' e)) (hcf : runStatus l.st.s cur ≠ some .failed) :
      NoDestOut a l cur (.inl { toParent a l p with st := st', exit := e })
  | tapeErr (w : Nat) : NoDestOut a l cur (.inr (.tapeErr w))

theorem noDest_out (a : Assets) (orc : Oracle) (l : Loop) (cur : Nat) :
    NoDestOut a (finished l cur) cur (noDest a orc l cur) := by
  unfold noDest finished finishRun
  simp only
  generalize (if ((l.st.s.runs[cur]?).map (·.exited)).getD true then l.st.s else exitRun l.st.s cur .completed) = s
  split
  next p hpar =>
    split
    next hact =>
      split
      next hcf =>
        split
        next => exact .noFlow hpar hact hcf
        next =>
          have := findResumeExit_out a orc { l.st with s := s } p
          split
          next h => exact .findErr hpar hact (h ▸ this) hcf
          next h => exact .findOk hpar hact (h ▸ this) hcf
          next => exact .tapeErr _
      next hcf => exact .childFailed hpar hact (by simpa using hcf)
    next hna => exact .ended fun q hq => by rw [hpar] at hq; cases hq; exact hna
  next hpar => exact .ended fun q hq => by rw [hpar] at hq; cases hq

/-- the step budget of a call: `MaxStepsPerSprint`, nothing if that is negative -/
def maxBudget (o : Opts) : Nat := o.maxSteps.toNat

theorem le_maxBudget (o : Opts) : o.maxSteps ≤ maxBudget o := by
  unfold maxBudget; omega

theorem maxBudget_eq_max (o : Opts) : maxBudget o = (max 0 o.maxSteps).toNat := by
  unfold maxBudget; omega

inductive GoDestOut (a : Assets) (o : Opts) (l : Loop) (cur d : Nat) : Sum Loop Result → Prop
  | limit (h : l.n + 1 > o.maxSteps) : GoDestOut a o l cur d (.inl { l with n := l.n + 1, st := failRun l.st cur l.step })
  | noNode : GoDestOut a o l cur d (.inr (.goErr l.st))
  | visitErr (h : ¬ l.n + 1 > o.maxSteps) {node : Node}
      (hnode : getNode a (((l.st.s.runs[cur]?).map (·.flow)).getD 0) d = some node) (vc : VisitChoice) :
      GoDestOut a o l cur d (.inr (.goErr (visited l.st cur d vc)))
  | waits (h : ¬ l.n + 1 > o.maxSteps) {node : Node}
      (hnode : getNode a (((l.st.s.runs[cur]?).map (·.flow)).getD 0) d = some node) (vc : VisitChoice)
      {st' : St} {step : StepRef} {e : Option (Option Nat)}
      (hv : VisitOut (visited l.st cur d vc) cur node (createStep l.st cur d).2 (.ok st' step e))
      (hw : st'.s.status = .waiting) : GoDestOut a o l cur d (.inr (.ok st'))
  | next (h : ¬ l.n + 1 > o.maxSteps) {node : Node}
      (hnode : getNode a (((l.st.s.runs[cur]?).map (·.flow)).getD 0) d = some node) (vc : VisitChoice)
      {st' : St} {step : StepRef} {e : Option (Option Nat)}
      (hv : VisitOut (visited l.st cur d vc) cur node (createStep l.st cur d).2 (.ok st' step e))
      (hw : st'.s.status ≠ .waiting) :
      GoDestOut a o l cur d (.inl { l with n := l.n + 1, st := st', step := some step, exit := e })
  | tapeErr (w : Nat) : GoDestOut a o l cur d (.inr (.tapeErr w))

theorem goDest_out (a : Assets) (o : Opts) (orc : Oracle) (l : Loop) (cur d : Nat) :
    GoDestOut a o l cur d (goDest a o orc l cur d) := by
  unfold goDest
  simp only
  split
  next hgt => exact .limit hgt
  next hle =>
    split
    next => exact .noNode
    next node hnode =>
      split
      next vc hvc =>
        have := visitNode_out l.st cur d node vc
        split
        next h => rw [h] at this; cases this; exact .visitErr hle hnode vc
        next => exact .tapeErr _
        next h =>
          split
          next hw => exact .waits hle hnode vc (h ▸ this) hw
          next hw => exact .next hle hnode vc (h ▸ this) hw
      next => exact .tapeErr _

theorem iter_elim {motive : Sum Loop Result → Prop} (tape : motive (.inr (.tapeErr 31)))
    (noDest : ∀ {l1 : Loop} {cur : Nat} {res}, DestOut a l (l1, none) → l1.cur = some cur →
      NoDestOut a (finished l1 cur) cur res → motive res)
    (goDest : ∀ {l1 : Loop} {cur d : Nat} {res}, DestOut a l (l1, some d) → l1.cur = some cur →
      GoDestOut a o l1 cur d res → motive res) : motive (iter a o orc l) := by
  have hd := pickDest_out a l
  unfold iter
  simp only
  split
  next => exact tape
  next cur hcur hnone => exact noDest (hnone ▸ hd) hcur (noDest_out a orc _ cur)
  next cur d hcur hsome => exact goDest (hsome ▸ hd) hcur (goDest_out a o orc _ cur d)

/-- of what one iteration returns: `I` of the loop state it goes on with, `Q` of the result it stops with -/
def IterPost (I : Loop → Prop) (Q : Result → Prop) : Sum Loop Result → Prop
  | .inl l' => I l'
  | .inr r => Q r

theorem IterPost.imp {I I' : Loop → Prop} {Q Q' : Result → Prop} {x : Sum Loop Result} (h : IterPost I Q x)
    (hI : ∀ l, I l → I' l) (hQ : ∀ r, Q r → Q' r) : IterPost I' Q' x := by
  cases x with
  | inl l => exact hI l h
  | inr r => exact hQ r h

theorem loop_inv {I : Loop → Prop} {Q : Result → Prop}
    (step : ∀ l, I l → IterPost I Q (iter a o orc l)) (hQ : Q .outOfFuel) :
    ∀ (fuel : Nat) (l : Loop), I l → Q (loop a o orc fuel l)
  | 0, _, _ => hQ
  | fuel + 1, l, h => by
    have := step l h
    simp only [loop]
    split
    next l' heq => rw [heq] at this; exact loop_inv step hQ fuel l' this
    next r heq => rw [heq] at this; exact this

theorem loop_no_engineErr {fuel : Nat} {c : Nat} :
    loop a o orc fuel l ≠ .engineErr c st :=
  loop_inv (I := fun _ => True) (Q := (· ≠ .engineErr c st))
    (fun _ _ => iter_elim nofun
      (fun _ _ h => by
        cases h with
        | ended | tapeErr => nofun
        | childFailed | noFlow | findErr | findOk => trivial)
      (fun _ _ h => by
        cases h with
        | noNode | visitErr | waits | tapeErr => nofun
        | limit | next => trivial))
    nofun fuel l trivial

/-- `P` of the state handed back without error; `OnRet`: also of the state handed back with a Go error -/
def OnOk (P : St → Prop) : Result → Prop
  | .ok st => P st
  | _ => True

def OnRet (P : St → Prop) : Result → Prop
  | .ok st => P st
  | .goErr st => P st
  | _ => True

def startLoop (orc : Oracle) : Loop :=
  { st := { s := { emptySession with pushed := some ⟨orc.initFlow, false⟩ }, sp := (logSprintOnly ⟨emptySession, []⟩ orc.initEvents).sp },
    cur := none, exit := none, step := none, n := 0 }

theorem start_eq (a : Assets) (o : Opts) (orc : Oracle) :
    start a o orc = if orc.initErr then .goErr (logSprintOnly ⟨emptySession, []⟩ orc.initEvents)
      else loop a o orc (fuelFor o emptySession) (startLoop orc) := rfl

/-- the state in which an accepted resume of the waiting run `w`, which is at `step`, looks for its exit -/
def applied (orc : Oracle) (s : Session) (k : ResumeKind) (w : Nat) (step : StepRef) : St :=
  applyResume orc ⟨{ s with status := .active }, []⟩ w step k

inductive ResumeOut (a : Assets) (o : Opts) (orc : Oracle) (s : Session) (k : ResumeKind) : Result → Prop
  | rejected (c : Nat) (hc : c = 101 ∨ c = 102 ∨ c = 103) : ResumeOut a o orc s k (.engineErr c ⟨s, []⟩)
  | unrecoverable (w : Nat) : ResumeOut a o orc s k (.ok (failSession ⟨s, []⟩ w))
  | findErr {w : Nat} {step : StepRef} {node : Node} (hw : waitingRun s = some w)
      (hloc : pathLocation a s w = some (step, node)) {st' : St} (h : FindOut a (applied orc s k w step) w (.err st')) :
      ResumeOut a o orc s k (.ok (failSession st' w))
  | loop {w : Nat} {step : StepRef} {node : Node} (hw : waitingRun s = some w)
      (hloc : pathLocation a s w = some (step, node)) {st' : St} {e : Option (Option Nat)}
      (h : FindOut a (applied orc s k w step) w (.ok st' e)) :
      ResumeOut a o orc s k (loop a o orc (fuelFor o st'.s) { st := st', cur := some w, exit := e, step := some step, n := 0 })
  | tapeErr (x : Nat) : ResumeOut a o orc s k (.tapeErr x)

theorem resume_out (a : Assets) (o : Opts) (orc : Oracle) (s : Session) (k : ResumeKind) :
    ResumeOut a o orc s k (resume a o orc s k) := by
  unfold resume
  simp only
  split
  next => exact .rejected _ (.inl rfl)
  next =>
  split
  next => exact .rejected _ (.inr (.inl rfl))
  next w hw =>
  split
  next => exact .unrecoverable w
  next =>
  split
  next => exact .unrecoverable w
  next =>
  split
  next => exact .unrecoverable w
  next step node hloc =>
  split
  next => exact .unrecoverable w
  next =>
  split
  next => exact .rejected _ (.inr (.inr rfl))
  next =>
  have := findResumeExit_out a orc (applied orc s k w step) w
  split
  next h => exact .findErr hw hloc (h ▸ this)
  next => exact .tapeErr _
  next h => exact .loop hw hloc (h ▸ this)

end GoflowModel.Engine
