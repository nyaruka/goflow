import GoflowModel.Excellent.Expr
import GoflowModel.Lemmas.Basics
/-!
A fuel-free, relational reading of the **whole** expression parser — operators, negation,
literals, anonymous functions, atoms with their suffix loop (dot lookups, index lookups, calls) and
parameter lists — sound for the executable parser (given enough fuel) and complete on the printed
tokens of the trees the parser produces (`Shape`); together: `parseExpr_toks`.  Expressions and parameter
lists are derived by one relation over the sum `Res`, so that ordinary induction applies.
-/
namespace GoflowModel.Expr

theorem prec_le_12 (o : BinOp) : o.prec ≤ 12 := by cases o <;> simp [BinOp.prec]
theorem prec_ge_7 (o : BinOp) : 7 ≤ o.prec := by cases o <;> simp [BinOp.prec]
/-- in the form `o.prec + 1 ≤ 14`: one above any operator is still a level (`level _ ≤ 14`) -/
theorem prec_lt_14 (o : BinOp) : o.prec < 14 := Nat.lt_of_le_of_lt (prec_le_12 o) (by decide)

namespace Full

inductive Res where
  | e (x : Expr)
  | a (x : Args)

inductive NT where
  | expr (p : Nat)
  | ops (p : Nat) (acc : Expr)
  | primary
  | suffix (acc : Expr)
  | args

/-- the next token neither continues an atom nor turns `( name )` into the head of an anonymous
function -/
def quiet : List Tok → Prop
  | .dot :: _ => False
  | .lbrack :: _ => False
  | .lparen :: _ => False
  | .arrow :: _ => False
  | _ => True

/-- `ops p acc`, `suffix acc`: the operator loop of `expression[p]`, the suffix loop of `atom`, with `acc` read so far.
A parameter list is read only in front of its `)`, which is all that printed text needs. -/
inductive Parses : NT → List Tok → Res → List Tok → Prop where
  | expr {p ts l r1 e r2} : Parses .primary ts (.e l) r1 → Parses (.ops p l) r1 (.e e) r2 → Parses (.expr p) ts (.e e) r2
  | step {p l o ts r ts' e rest} : p ≤ o.prec → Parses (.expr (o.prec + 1)) ts (.e r) ts' →
      Parses (.ops p (.bin o l r)) ts' (.e e) rest → Parses (.ops p l) (.op o :: ts) (.e e) rest
  | stop {p l ts} : (∀ q tl, ts = .op q :: tl → q.prec < p) → Parses (.ops p l) ts (.e l) ts
  | neg {ts e rest} : Parses (.expr 13) ts (.e e) rest → Parses .primary (.op .sub :: ts) (.e (.neg e)) rest
  | tru {rest} : Parses .primary (.tru :: rest) (.e (.bool true)) rest
  | fls {rest} : Parses .primary (.fls :: rest) (.e (.bool false)) rest
  | null {rest} : Parses .primary (.null :: rest) (.e .null) rest
  | num {t s v rest} : t = .int s ∨ t = .dec s → numValue s = v → Parses .primary (t :: rest) (.e (.num v)) rest
  | text {raw v rest} : Quote.literalValue raw = some v → Parses .primary (.text raw :: rest) (.e (.text v)) rest
  | lam {ts args rest b rest'} : lamHead (.lparen :: ts) = some (args, rest) → Parses (.expr 6) rest (.e b) rest' →
      Parses .primary (.lparen :: ts) (.e (.lam args b)) rest'
  | atomRef {n ts e rest} : Parses (.suffix (.ref n)) ts (.e e) rest → Parses .primary (.name n :: ts) (.e e) rest
  | atomParen {ts e1 ts' e rest} : lamHead (.lparen :: ts) = none → Parses (.expr 0) ts (.e e1) (.rparen :: ts') →
      Parses (.suffix (.paren e1)) ts' (.e e) rest → Parses .primary (.lparen :: ts) (.e e) rest
  | sfxDot {a t n ts e rest} : t = .name n ∨ t = .int n → Parses (.suffix (.dot a n)) ts (.e e) rest →
      Parses (.suffix a) (.dot :: t :: ts) (.e e) rest
  | sfxIdx {a ts i ts' e rest} : Parses (.expr 0) ts (.e i) (.rbrack :: ts') → Parses (.suffix (.idx a i)) ts' (.e e) rest →
      Parses (.suffix a) (.lbrack :: ts) (.e e) rest
  | sfxCall0 {a ts e rest} : Parses (.suffix (.call a .nil)) ts (.e e) rest → Parses (.suffix a) (.lparen :: .rparen :: ts) (.e e) rest
  | sfxCall {a ts ps ts' e rest} : Parses .args ts (.a ps) (.rparen :: ts') →
      Parses (.suffix (.call a ps)) ts' (.e e) rest → Parses (.suffix a) (.lparen :: ts) (.e e) rest
  | sfxStop {a ts} : quiet ts → Parses (.suffix a) ts (.e a) ts
  | argsOne {ts e rest} : Parses (.expr 0) ts (.e e) (.rparen :: rest) → Parses .args ts (.a (.cons e .nil)) (.rparen :: rest)
  | argsMore {ts e ts' more rest} : Parses (.expr 0) ts (.e e) (.comma :: ts') → Parses .args ts' (.a more) rest →
      Parses .args ts (.a (.cons e more)) rest

/-- what the executable parser computes for a nonterminal -/
def Holds (f : Nat) : NT → List Tok → Res → List Tok → Prop
  | .expr p, ts, .e e, rest => parseExpr f p ts = some (e, rest)
  | .ops p acc, ts, .e e, rest => parseOps f p acc ts = some (e, rest)
  | .primary, ts, .e e, rest => parsePrimary f ts = some (e, rest)
  | .suffix a, ts, .e e, rest => parseSuffix f a ts = some (e, rest)
  | .args, ts, .a ps, rest => parseArgs f ts = some (ps, rest)
  | _, _, _, _ => False

theorem parseOps_stop (f p : Nat) (l : Expr) (ts : List Tok) (h : ∀ q tl, ts = .op q :: tl → q.prec < p) :
    parseOps (f + 1) p l ts = some (l, ts) := by
  unfold parseOps
  split
  · exact if_neg (Nat.not_le.2 (h _ _ rfl))
  · rfl

theorem parseSuffix_quiet (f : Nat) (a : Expr) (ts : List Tok) (h : quiet ts) :
    parseSuffix (f + 1) a ts = some (a, ts) := by
  unfold parseSuffix
  cases ts with
  | nil => rfl
  | cons t tl =>
    cases t with
    | dot | lbrack | lparen => exact h.elim
    | _ => rfl

theorem args_ne_rparen {t : List Tok} {r : Res} {rest : List Tok} (h : Parses .args (.rparen :: t) r rest) : False := by
  -- parameters begin with an expression, an expression with a primary, and no primary begins with `)`
  cases h with
  | argsOne h | argsMore h _ =>
    cases h with
    | expr h _ =>
      cases h with
      | num ht => exact ht.elim nofun nofun

theorem holds_of_parses {nt : NT} {ts : List Tok} {r : Res} {rest : List Tok} (h : Parses nt ts r rest) :
    Ev (Holds · nt ts r rest) := by
  induction h
  all_goals simp only [Holds] at *
  case expr ih1 ih2 => exact ih1.step₂ ih2 fun f a b => by rw [parseExpr, a]; exact b
  case step hp _ _ ih1 ih2 => exact ih1.step₂ ih2 fun f a b => by rw [parseOps, if_pos hp, a]; exact b
  case stop hs => exact .now fun f => parseOps_stop f _ _ _ hs
  case neg ih => exact ih.step 1 fun f a => by rw [parsePrimary, a]
  case tru | fls | null => exact .now fun _ => rfl
  case num ht hv => exact .now fun f => by rcases ht with rfl | rfl <;> rw [parsePrimary, hv]
  case text hv => exact .now fun f => by rw [parsePrimary, hv]
  case lam hl _ ih => exact ih.step 1 fun f a => by simp only [parsePrimary, hl, a]
  case atomRef ih => exact ih.step 2 fun f a => by simp only [parsePrimary, lamHead, parseAtom, a]
  case atomParen hl _ _ ih1 ih2 =>
    have hatom : Ev fun f => parseAtom f (.lparen :: _) = some (_, _) :=
      ih1.step₂ ih2 fun f a b => by rw [parseAtom, a]; exact b
    exact hatom.step 1 fun f a => by simp only [parsePrimary, hl, a]
  case sfxDot ht _ ih => exact ih.step 1 fun f a => by rcases ht with rfl | rfl <;> rw [parseSuffix, a]
  case sfxIdx ih1 ih2 => exact ih1.step₂ ih2 fun f a b => by rw [parseSuffix, a]; exact b
  case sfxCall0 ih => exact ih.step 1 fun f a => by rw [parseSuffix, a]
  case sfxCall h1 _ ih1 ih2 =>
    refine ih1.step₂ ih2 fun f a b => ?_
    -- `( )` is matched first: the parameters are only parsed when `ts` does not start with `)`
    rw [parseSuffix, a]
    · exact b
    · exact fun t ht => args_ne_rparen (ht ▸ h1)
  case sfxStop hq => exact .now fun f => parseSuffix_quiet f _ _ hq
  case argsOne ih => exact ih.step 1 fun f a => by rw [parseArgs, a]
  case argsMore ih1 ih2 => exact ih1.step₂ ih2 fun f a b => by rw [parseArgs, a]; simp only [b]

def isAtom : Expr → Bool
  | .ref _ => true
  | .paren _ => true
  | .dot _ _ => true
  | .idx _ _ => true
  | .call _ _ => true
  | _ => false

/-- the highest level at which an expression can be parsed as a whole (atoms, literals and anonymous functions are
alternatives of `expression` at every level) -/
def level : Expr → Nat
  | .bin o _ _ => o.prec
  | .neg _ => 13
  | _ => 14

/-- the tightest operator that may follow an expression's text without being taken into it: an
anonymous function at the right edge takes every operator (its body is parsed at level 6), a
binary node takes those above its own operator -/
def edge : Expr → Nat
  | .bin o _ r => min o.prec (edge r)
  | .neg e => min 13 (edge e)
  | .lam _ _ => 6
  | _ => 14

theorem edge_le_level (e : Expr) : edge e ≤ level e := by
  cases e <;> simp only [edge, level] <;> omega

/-- the bound from above is `LegacyFull.level_le_14` -/
theorem level_ge_7 (e : Expr) : 7 ≤ level e := by
  cases e with
  | bin o _ _ => exact prec_ge_7 o
  | _ => simp [level]

/-- trees in the shape the parser produces, and parameter lists of such trees; in `bin`, the left operand lets `o` follow
(`edge`) and the right one is strictly above it (left associativity) -/
inductive Shape : Res → Prop where
  | ref {n} : lowerName n = n → Shape (.e (.ref n))
  | tru : Shape (.e (.bool true))
  | fls : Shape (.e (.bool false))
  | null : Shape (.e .null)
  | num {s} : numValue s = s → Shape (.e (.num s))
  | text {v} : Quote.literalValue (Quote.quote Tables.isPrint v) = some v → Shape (.e (.text v))
  | neg {e} : Shape (.e e) → 13 ≤ level e → Shape (.e (.neg e))
  | paren {e} : Shape (.e e) → Shape (.e (.paren e))
  | bin {o l r} : Shape (.e l) → Shape (.e r) → o.prec ≤ edge l → o.prec + 1 ≤ level r → Shape (.e (.bin o l r))
  | dot {c l} : Shape (.e c) → isAtom c = true → Shape (.e (.dot c l))
  | idx {c i} : Shape (.e c) → isAtom c = true → Shape (.e i) → Shape (.e (.idx c i))
  | call {f ps} : Shape (.e f) → isAtom f = true → Shape (.a ps) → Shape (.e (.call f ps))
  | lam {args b} : args ≠ [] → Shape (.e b) → Shape (.e (.lam args b))
  | argsNil : Shape (.a .nil)
  | argsCons {e rest} : Shape (.e e) → Shape (.a rest) → Shape (.a (.cons e rest))

/-- an operator behind the text of `e` is not taken into `e`: it is too low for every operator loop that is open at the
right end of `e` (`edge`) -/
def Follow (e : Expr) (rest : List Tok) : Prop := ∀ q tl, rest = .op q :: tl → q.prec ≤ edge e
/-- … and is below the level the expression was parsed at -/
def FollowP (p : Nat) (e : Expr) (rest : List Tok) : Prop := ∀ q tl, rest = .op q :: tl → q.prec < p ∧ q.prec ≤ edge e

theorem follow_iff {e e' : Expr} {p : Nat} (h : ∀ q : BinOp, q.prec ≤ edge e ↔ q.prec < p ∧ q.prec ≤ edge e') {rest : List Tok} :
    Follow e rest ↔ FollowP p e' rest :=
  forall_congr' fun q => forall_congr' fun _ => imp_congr_right fun _ => h q

theorem follow_bin {o : BinOp} {l r : Expr} {rest : List Tok} : Follow (.bin o l r) rest ↔ FollowP (o.prec + 1) r rest :=
  follow_iff fun q => by simp only [edge]; omega

theorem follow_neg {e : Expr} {rest : List Tok} : Follow (.neg e) rest ↔ FollowP 13 e rest :=
  follow_iff fun q => by have := prec_le_12 q; simp only [edge]; omega

-- no operator is below 7: either side says that none follows
theorem follow_lam {args : List (List Char)} {b : Expr} {rest : List Tok} : Follow (.lam args b) rest ↔ FollowP 6 b rest :=
  follow_iff fun q => by have := prec_ge_7 q; simp only [edge]; omega

/-- `( name T` is not the head of an anonymous function -/
def tailOK (T : List Tok) : Prop := ∀ acc, lamHead.names acc T = none

/-- where the suffix loop reads on, or stops, there is no `=>` -/
theorem tailOK_rparen {a : Expr} {ts : List Tok} {r : Res} {rest : List Tok} (h : Parses (.suffix a) ts r rest) :
    tailOK (.rparen :: ts) := fun _ => by
  cases h with
  | sfxStop hq =>
    cases ts with
    | nil => rfl
    | cons t tl =>
      cases t with
      | arrow => exact hq.elim
      | _ => rfl
  | _ => rfl

/-- `( name )` is the head of an anonymous function before `=>`: hence `tailOK` -/
theorem lamHead_toks : ∀ (e : Expr) {T : List Tok}, tailOK T → lamHead (.lparen :: (toks e ++ T)) = none
  | .ref _, _, hT => hT _
  | .bool true, _, _ | .bool false, _, _ | .null, _, _ | .text _, _, _ | .neg _, _, _ | .paren _, _, _ | .lam _ _, _, _ => rfl
  | .num s, _, _ => by simp only [toks]; split <;> rfl
  | .bin o l r, T, _ => by simpa [toks] using lamHead_toks l (T := .op o :: (toks r ++ T)) fun _ => rfl
  | .dot c l, T, _ => by simpa [toks] using lamHead_toks c (T := .dot :: _ :: T) fun _ => rfl
  | .idx c i, T, _ => by simpa [toks] using lamHead_toks c (T := .lbrack :: (toks i ++ .rbrack :: T)) fun _ => rfl
  | .call f ps, T, _ => by simpa [toks] using lamHead_toks f (T := .lparen :: (argToks ps ++ .rparen :: T)) fun _ => rfl

theorem lamHead_names_nameToks (R : List Tok) : ∀ (bs acc : List (List Char)) (b : List Char),
    lamHead.names acc (.comma :: (nameToks (b :: bs) ++ .rparen :: .arrow :: R)) = some (acc ++ b :: bs, R)
  | [], acc, b => by simp [nameToks, lamHead.names]
  | c :: bs, acc, b => by simp [nameToks, lamHead.names, lamHead_names_nameToks R bs (acc ++ [b]) c]

theorem lamHead_nameToks (args : List (List Char)) (hne : args ≠ []) (R : List Tok) :
    lamHead (.lparen :: (nameToks args ++ (.rparen :: .arrow :: R))) = some (args, R) := by
  match args, hne with
  | [a], _ => simp [nameToks, lamHead, lamHead.names]
  | a :: b :: bs, _ => simp [nameToks, lamHead, lamHead_names_nameToks]

/-- in continuation form, which a binary node needs for its left operand -/
def CompleteE (e : Expr) : Prop :=
  ∀ p rest x rest', p ≤ level e → quiet rest → Follow e rest →
    Parses (.ops p e) rest (.e x) rest' → Parses (.expr p) (toks e ++ rest) (.e x) rest'

/-- the tokens of an atom, with what the suffix loop reads behind them, are one primary -/
def CompleteA (e : Expr) : Prop :=
  ∀ rest x rest', Parses (.suffix e) rest (.e x) rest' → Parses .primary (toks e ++ rest) (.e x) rest'

/-- the second half speaks of atoms only: for any other tree it is closed by `nofun` (`isAtom _ = true` is `false = true`) -/
def Complete : Res → Prop
  | .e e => CompleteE e ∧ (isAtom e = true → CompleteA e)
  | .a ps => ps ≠ .nil → ∀ ts', Parses .args (argToks ps ++ (.rparen :: ts')) (.a ps) (.rparen :: ts')

theorem CompleteE.stop {e : Expr} (h : CompleteE e) {p : Nat} {rest : List Tok} (hp : p ≤ level e) (hq : quiet rest)
    (hf : FollowP p e rest) : Parses (.expr p) (toks e ++ rest) (.e e) rest :=
  h p rest e rest hp hq (fun q tl hh => (hf q tl hh).2) (.stop fun q tl hh => (hf q tl hh).1)

/-- what an expression between brackets or in a parameter list ends before -/
inductive Closing : List Tok → Prop where
  | rparen {ts} : Closing (.rparen :: ts)
  | rbrack {ts} : Closing (.rbrack :: ts)
  | comma {ts} : Closing (.comma :: ts)

theorem CompleteE.closed {e : Expr} (h : CompleteE e) {rest : List Tok} (hc : Closing rest) :
    Parses (.expr 0) (toks e ++ rest) (.e e) rest := by
  cases hc <;> exact h.stop (Nat.zero_le _) trivial fun _ _ => nofun

theorem CompleteE.of_primary {e : Expr}
    (h : ∀ rest, quiet rest → Follow e rest → Parses .primary (toks e ++ rest) (.e e) rest) : CompleteE e :=
  fun _ rest _ _ _ hq hf hk => .expr (h rest hq hf) hk

theorem CompleteA.complete {e : Expr} (h : CompleteA e) : Complete (.e e) :=
  ⟨.of_primary fun rest hq _ => h rest e rest (.sfxStop hq), fun _ => h⟩

theorem complete_of_shape {r : Res} (h : Shape r) : Complete r := by
  induction h with
  | @ref n hn =>
    refine CompleteA.complete fun rest x rest' hk => ?_
    simp only [toks, hn, List.cons_append, List.nil_append]
    exact .atomRef hk
  | tru => exact ⟨.of_primary fun _ _ _ => .tru, nofun⟩
  | fls => exact ⟨.of_primary fun _ _ _ => .fls, nofun⟩
  | null => exact ⟨.of_primary fun _ _ _ => .null, nofun⟩
  | num hs => exact ⟨.of_primary fun _ _ _ => .num (by split <;> simp) hs, nofun⟩
  | text hv => exact ⟨.of_primary fun _ _ _ => .text hv, nofun⟩
  | @neg e1 _ hl ih =>
    exact ⟨.of_primary fun rest hq hf => .neg (ih.1.stop hl hq (follow_neg.1 hf)), nofun⟩
  | @paren e1 _ ih =>
    refine CompleteA.complete fun rest x rest' hk => ?_
    simp only [toks, List.append_assoc, List.cons_append, List.nil_append]
    exact .atomParen (lamHead_toks e1 (tailOK_rparen hk)) (ih.1.closed .rparen) hk
  | @bin o l r _ _ hl hr ihl ihr =>
    refine ⟨fun p rest x rest' hp hq hf hk => ?_, nofun⟩
    simp only [toks, List.append_assoc, List.cons_append, List.nil_append]
    -- `r`, parsed one level above `o`, ends before `rest`; the operator loop behind `l` then takes `o` and goes on as `hk` says
    have hr' : Parses (.expr (o.prec + 1)) (toks r ++ rest) (.e r) rest := ihr.1.stop hr hq (follow_bin.1 hf)
    exact ihl.1 p _ x rest' (Nat.le_trans hp (Nat.le_trans hl (edge_le_level l))) trivial
      (fun q tl hh => by cases hh; exact hl) (.step hp hr' hk)
  | @dot c l _ hat ih =>
    refine CompleteA.complete fun rest x rest' hk => ?_
    simp only [toks, List.append_assoc, List.cons_append, List.nil_append]
    exact ih.2 hat _ _ _ (.sfxDot (by split <;> simp) hk)
  | @idx c i _ hat _ ihc ihi =>
    refine CompleteA.complete fun rest x rest' hk => ?_
    simp only [toks, List.append_assoc, List.cons_append, List.nil_append]
    exact ihc.2 hat _ _ _ (.sfxIdx (ihi.1.closed .rbrack) hk)
  | @call f ps _ hat hps ihf ihps =>
    refine CompleteA.complete fun rest x rest' hk => ?_
    simp only [toks, List.append_assoc, List.cons_append, List.nil_append]
    refine ihf.2 hat _ _ _ ?_
    cases hps with
    | argsNil => exact .sfxCall0 hk
    | argsCons _ _ => exact .sfxCall (ihps nofun rest) hk
  | @lam args b hne _ ih =>
    refine ⟨.of_primary fun rest hq hf => ?_, nofun⟩
    simp only [toks, List.append_assoc, List.cons_append]
    exact .lam (lamHead_nameToks args hne _) (ih.1.stop (Nat.le_of_succ_le (level_ge_7 b)) hq (follow_lam.1 hf))
  | argsNil => exact fun h => absurd rfl h
  | @argsCons e1 more _ _ ihe ihm =>
    intro _ ts'
    cases more with
    | nil => exact .argsOne (ihe.1.closed .rparen)
    | cons e2 more2 =>
      simp only [argToks, List.append_assoc, List.cons_append, List.nil_append]
      exact .argsMore (ihe.1.closed .comma) (ihm nofun ts')

theorem parseExpr_toks {e : Expr} (h : Shape (.e e)) {p : Nat} {rest : List Tok} (hp : p ≤ level e) (hq : quiet rest)
    (hf : FollowP p e rest) : ∃ f0, ∀ f, f0 ≤ f → parseExpr f p (toks e ++ rest) = some (e, rest) :=
  holds_of_parses ((complete_of_shape h).1.stop hp hq hf)

end GoflowModel.Expr.Full
