import GoflowModel.Lemmas.EngineCases
/-!
The core invariant of the engine's loop: `exited` is set exactly for ended runs (clause iv of C01),
the session is not waiting while the loop runs, an exit is only followed from an active run with
nothing pushed, and every run's parent is an earlier run.
-/
namespace GoflowModel.Engine

variable {a : Assets} {o : Opts} {orc : Oracle} {l : Loop} {s : Session} {st st' : St} {r cur : Nat} {node : Node}
  {step : StepRef} {e : Option (Option Nat)} {res : Sum Loop Result}

def Ended (st : RunStatus) : Prop := st = .completed ∨ st = .failed ∨ st = .expired

instance (st : RunStatus) : Decidable (Ended st) := by unfold Ended; infer_instance

/-- clause (iv) of C01 for one run -/
def RunOK (x : Run) : Prop := x.exited = true ↔ Ended x.status

def SessOK (s : Session) : Prop := ∀ (i : Nat) (x : Run), s.runs[i]? = some x → RunOK x

def parents (s : Session) : List (Option Nat) := s.runs.map (·.parent)

/-- every run's parent has a smaller index -/
def PBC (s : Session) : Prop := ∀ (i : Nat) (p : Nat), (parents s)[i]? = some (some p) → p < i

theorem getElem?_modifyRun (s : Session) (r : Nat) (f : Run → Run) (i : Nat) :
    (modifyRun s r f).runs[i]? = (s.runs[i]?).map (fun x => if r = i then f x else x) := by
  simp only [modifyRun, List.getElem?_modify]
  rfl

theorem map_modifyRun {β : Type} {g : Run → β} {f : Run → Run} (h : ∀ x, g (f x) = g x) (s : Session) (r : Nat) :
    (modifyRun s r f).runs.map g = s.runs.map g := by
  apply List.ext_getElem?
  intro i
  simp only [List.getElem?_map, getElem?_modifyRun, Option.map_map]
  cases s.runs[i]? <;> simp only [Option.map_none, Option.map_some, Function.comp]
  split <;> simp [h]

theorem modifyRun_self {f : Run → Run} (h : ∀ x, f x = x) (s : Session) (r : Nat) : modifyRun s r f = s := by
  have : f = id := funext h
  simp [modifyRun, this]

theorem modifyRun_modifyRun (s : Session) (r : Nat) (f g : Run → Run) :
    modifyRun (modifyRun s r f) r g = modifyRun s r (g ∘ f) := by
  simp [modifyRun, List.modify_modify_eq]

theorem logEvents_eq (st : St) (r : Nat) (step : Option StepRef) (ks : List EvK) :
    logEvents st r step ks =
      { s := modifyRun st.s r fun x => { x with events := x.events ++ ks.map fun k => ⟨k.kind, k.isWait, step⟩ },
        sp := st.sp ++ ks.map fun k => ⟨some r, ⟨k.kind, k.isWait, step⟩⟩ } := by
  unfold logEvents
  induction ks generalizing st with
  | nil => simp [modifyRun_self]
  | cons k ks ih =>
    rw [List.foldl_cons, ih]
    simp [logEvent, modifyRun_modifyRun, Function.comp_def]

theorem runStatus_of_getElem? {i : Nat} {x : Run} (hx : s.runs[i]? = some x) : runStatus s i = some x.status := by
  rw [runStatus, hx]; rfl

theorem runStatus_modifyRun (s : Session) (r : Nat) (f : Run → Run) (i : Nat) :
    runStatus (modifyRun s r f) i = (s.runs[i]?).map (fun x => if r = i then (f x).status else x.status) := by
  simp only [runStatus, getElem?_modifyRun, Option.map_map]
  congr 1
  funext x
  simp only [Function.comp]
  split <;> rfl

theorem runStatus_modifyRun_same (s : Session) (r : Nat) {f : Run → Run} (hf : ∀ x, (f x).status = x.status) (i : Nat) :
    runStatus (modifyRun s r f) i = runStatus s i := by
  rw [runStatus_modifyRun]
  simp [runStatus, hf]

theorem runStatus_modifyRun_set (s : Session) (r : Nat) {f : Run → Run} {st : RunStatus} (hf : ∀ x, (f x).status = st) :
    runStatus (modifyRun s r f) r = (runStatus s r).map fun _ => st := by
  rw [runStatus_modifyRun]
  simp [runStatus, hf, Function.comp_def]

theorem runStatus_logEvents (st : St) (r : Nat) (step : Option StepRef) (ks : List EvK) (i : Nat) :
    runStatus (logEvents st r step ks).s i = runStatus st.s i := by
  rw [logEvents_eq]
  apply runStatus_modifyRun_same
  intro _; rfl

theorem runStatus_failRun (st : St) (r : Nat) (step : Option StepRef) :
    runStatus (failRun st r step).s r = (runStatus st.s r).map fun _ => .failed := by
  simp only [failRun, logEvent, exitRun, modifyRun_modifyRun]
  exact runStatus_modifyRun_set _ _ (fun _ => rfl)

theorem runStatus_pushRun (s : Session) (flow : Nat) (parent : Option Nat) (i : Nat) :
    runStatus (pushRun s flow parent) i =
      if i < s.runs.length then runStatus s i else if i = s.runs.length then some .active else none := by
  simp only [runStatus, pushRun]
  split
  next hlt => rw [List.getElem?_append_left hlt]
  next hge =>
    split
    next heq => rw [heq, List.getElem?_concat_length]; rfl
    next hne => rw [List.getElem?_eq_none (by rw [List.length_append, List.length_singleton]; omega)]; rfl

theorem runStatus_exitAll (s : Session) (i : Nat) :
    runStatus (exitAll s) i = (runStatus s i).map fun _ => RunStatus.completed := by
  simp only [runStatus, exitAll, List.getElem?_map, Option.map_map]
  cases s.runs[i]? <;> rfl

theorem runStatus_lt {s : Session} {i : Nat} {x : RunStatus} (h : runStatus s i = some x) : i < s.runs.length := by
  simp only [runStatus] at h
  rcases Nat.lt_or_ge i s.runs.length with hl | hl
  · exact hl
  · rw [List.getElem?_eq_none hl] at h; cases h

theorem waitingRun_spec {w : Nat} (h : waitingRun s = some w) : runStatus s w = some .waiting := by
  obtain ⟨hlt, hw, _⟩ := List.findIdx?_eq_some_iff_getElem.1 h
  simpa [runStatus, List.getElem?_eq_getElem hlt] using hw

/-- the one place that looks inside `pathLocation`'s `do` block -/
theorem pathLocation_eq_some_iff {step : StepRef} :
    pathLocation a s r = some (step, node) ↔
      ∃ x t, s.runs[r]? = some x ∧ x.path.getLast? = some t ∧ getNode a x.flow t.node = some node ∧
        step = ⟨r, x.path.length - 1⟩ := by
  simp only [pathLocation, Option.bind_eq_bind, Option.pure_def, Option.bind_eq_some_iff, Option.some.injEq,
    Prod.mk.injEq]
  constructor
  · rintro ⟨x, hx, t, ht, n, hn, rfl, rfl⟩; exact ⟨x, t, hx, ht, hn, rfl⟩
  · rintro ⟨x, t, hx, ht, hn, rfl⟩; exact ⟨x, hx, t, ht, node, hn, rfl, rfl⟩

/-- only run `r`'s status may differ -/
def Fr (r : Nat) (s s' : Session) : Prop := ∀ i, i ≠ r → runStatus s' i = runStatus s i

theorem Fr.trans {s s' s'' : Session} (h1 : Fr r s s') (h2 : Fr r s' s'') : Fr r s s'' :=
  fun i hi => by rw [h2 i hi, h1 i hi]

theorem Fr_modifyRun (s : Session) (r : Nat) (f : Run → Run) : Fr r s (modifyRun s r f) := by
  intro i hi
  have : ¬ r = i := fun e => hi e.symm
  rw [runStatus_modifyRun]
  simp [runStatus, this]

theorem SessOK_modifyRun {f : Run → Run} (h : SessOK s)
    (hf : ∀ x, s.runs[r]? = some x → RunOK (f x)) : SessOK (modifyRun s r f) := by
  intro i x hx
  rw [getElem?_modifyRun] at hx
  cases hi : s.runs[i]? with
  | none => simp [hi] at hx
  | some y =>
    simp only [hi, Option.map_some, Option.some.injEq] at hx
    by_cases e : r = i
    · subst e; simp only [if_true] at hx; subst hx; exact hf y hi
    · simp only [e, if_false] at hx; subst hx; exact h i y hi

theorem SessOK_modifyRun_same {f : Run → Run} (h : SessOK s)
    (hf : ∀ x, (f x).status = x.status ∧ (f x).exited = x.exited) : SessOK (modifyRun s r f) :=
  SessOK_modifyRun h fun x hx => by have := h r x hx; simp only [RunOK, hf x] at *; exact this

theorem SessOK_exitRun (r : Nat) {st : RunStatus} (h : SessOK s) (he : Ended st) :
    SessOK (exitRun s r st) :=
  SessOK_modifyRun h fun _ _ => by simp [RunOK, he]

theorem SessOK_setStatus {st st' : RunStatus} (h : SessOK s) (hr : runStatus s r = some st)
    (hst : ¬ Ended st) (hst' : ¬ Ended st') : SessOK (setStatus s r st') :=
  SessOK_modifyRun h fun x hx => by
    have := h r x hx
    have hs : x.status = st := Option.some.inj ((runStatus_of_getElem? hx).symm.trans hr)
    simp only [RunOK, hs, hst, iff_false] at this
    simp [RunOK, hst', this]

theorem SessOK_map {f : Run → Run} (hf : ∀ x, RunOK x → RunOK (f x)) (h : SessOK s) (st : SessStatus) :
    SessOK { s with runs := s.runs.map f, status := st } := by
  intro i x hx
  simp only [List.getElem?_map] at hx
  cases hi : s.runs[i]? with
  | none => simp [hi] at hx
  | some y => simp only [hi, Option.map_some, Option.some.injEq] at hx; exact hx ▸ hf y (h i y hi)

theorem of_getElem?_pushRun {flow i : Nat} {parent : Option Nat} {y : Run}
    (h : (pushRun s flow parent).runs[i]? = some y) :
    s.runs[i]? = some y ∨ i = s.runs.length ∧ y = ⟨flow, parent, .active, false, [], []⟩ := by
  simp only [pushRun, List.getElem?_append, List.getElem?_singleton] at h
  split at h
  next => exact .inl h
  next hge =>
    split at h
    next h0 => exact .inr ⟨Nat.le_antisymm (Nat.le_of_sub_eq_zero h0) (Nat.le_of_not_lt hge), (Option.some.inj h).symm⟩
    next => cases h

theorem SessOK_pushRun (flow : Nat) (parent : Option Nat) (h : SessOK s) : SessOK (pushRun s flow parent) := by
  intro i y hy
  rcases of_getElem?_pushRun hy with hy | ⟨_, rfl⟩
  · exact h i y hy
  · simp [RunOK, Ended]

theorem parents_modifyRun_same (s : Session) (r : Nat) {f : Run → Run} (h : ∀ x, (f x).parent = x.parent) :
    parents (modifyRun s r f) = parents s := map_modifyRun h s r

theorem parents_setPushed (s : Session) (p : Option Pushed) : parents { s with pushed := p } = parents s := rfl

theorem parents_length (s : Session) : (parents s).length = s.runs.length := by simp [parents]

theorem length_of_parents_eq {s s' : Session} (h : parents s' = parents s) : s'.runs.length = s.runs.length := by
  rw [← parents_length, h, parents_length]

theorem parents_eq_some {cur p : Nat} :
    (parents s)[cur]? = some (some p) ↔ (s.runs[cur]?).bind (·.parent) = some p := by
  simp only [parents, List.getElem?_map]
  cases s.runs[cur]? <;> simp

theorem parents_exitAll (s : Session) : parents (exitAll s) = parents s := by
  simp only [parents, exitAll, List.map_map]; rfl

theorem parents_ite_exitAll (s : Session) (b : Bool) : parents (if b then exitAll s else s) = parents s := by
  split
  · exact parents_exitAll s
  · rfl

theorem parents_pushRun (s : Session) (flow : Nat) (parent : Option Nat) :
    parents (pushRun s flow parent) = parents s ++ [parent] := by
  simp [parents, pushRun]

theorem PBC_of_parents_eq {s s' : Session} (h : parents s' = parents s) (hp : PBC s) : PBC s' := by
  unfold PBC at *; rw [h]; exact hp

theorem PBC_pushRun {parent : Option Nat} (flow : Nat) (hp : PBC s)
    (hx : ∀ q, parent = some q → q < s.runs.length) : PBC (pushRun s flow parent) := by
  intro i q hq
  simp only [parents, List.getElem?_map, Option.map_eq_some_iff] at hq
  obtain ⟨y, hy, hyq⟩ := hq
  rcases of_getElem?_pushRun hy with hy | ⟨rfl, rfl⟩
  · exact hp i q (by simp [parents, hy, hyq])
  · exact hx q hyq

/-- `st'` arises from `st` by changes to run `r` that keep clause (iv), the parent links and the session's status -/
structure Touch (r : Nat) (st st' : St) : Prop where
  ok : SessOK st.s → SessOK st'.s
  status : st'.s.status = st.s.status
  parents : parents st'.s = parents st.s
  fr : Fr r st.s st'.s

theorem Touch.refl (r : Nat) (st : St) : Touch r st st := ⟨id, rfl, rfl, fun _ _ => rfl⟩

theorem Touch.trans {st st' st'' : St} (h1 : Touch r st st') (h2 : Touch r st' st'') : Touch r st st'' :=
  ⟨fun h => h2.ok (h1.ok h), h2.status.trans h1.status, h2.parents.trans h1.parents, h1.fr.trans h2.fr⟩

theorem Touch.length (t : Touch r st st') : st'.s.runs.length = st.s.runs.length :=
  length_of_parents_eq t.parents

theorem Touch_modifyRun (st : St) (r : Nat) {f : Run → Run} (sp : List SprintEv)
    (hf : ∀ x, (f x).status = x.status ∧ (f x).exited = x.exited ∧ (f x).parent = x.parent) :
    Touch r st ⟨modifyRun st.s r f, sp⟩ :=
  ⟨fun h => SessOK_modifyRun_same h fun x => ⟨(hf x).1, (hf x).2.1⟩, rfl, parents_modifyRun_same _ _ fun x => (hf x).2.2,
    Fr_modifyRun _ _ _⟩

theorem Touch_logEvents (st : St) (r : Nat) (step : Option StepRef) (ks : List EvK) :
    Touch r st (logEvents st r step ks) := by
  rw [logEvents_eq]; exact Touch_modifyRun st r _ fun _ => ⟨rfl, rfl, rfl⟩

theorem logEvents_pushed (st : St) (r : Nat) (step : Option StepRef) (ks : List EvK) :
    (logEvents st r step ks).s.pushed = st.s.pushed := by rw [logEvents_eq]; rfl

theorem Touch_leave (st : St) (r : Nat) (e : Option Nat) : Touch r st { st with s := leave st.s r e } :=
  Touch_modifyRun st r _ fun _ => ⟨rfl, rfl, rfl⟩

theorem Touch_exitRun (st : St) (r : Nat) {x : RunStatus} (hx : Ended x) : Touch r st { st with s := exitRun st.s r x } :=
  ⟨fun h => SessOK_exitRun r h hx, rfl, parents_modifyRun_same _ _ fun _ => rfl, Fr_modifyRun _ _ _⟩

theorem Touch_failRun (st : St) (r : Nat) (step : Option StepRef) : Touch r st (failRun st r step) :=
  (Touch_exitRun st r (.inr (.inl rfl))).trans (Touch_logEvents _ r step [_])

theorem PickOut.touch
    (h : PickOut st r node step (.ok st' e)) :
    Touch r st st' ∧ st'.s.pushed = st.s.pushed ∧
    (runStatus st'.s r = runStatus st.s r ∨ e = none ∧ runStatus st'.s r = (runStatus st.s r).map fun _ => .failed) := by
  cases h with
  | noCategory => exact ⟨Touch_failRun _ _ _, rfl, .inr ⟨rfl, runStatus_failRun _ _ _⟩⟩
  | noExit => exact ⟨Touch_leave _ _ _, rfl, .inl (runStatus_modifyRun_same _ _ (by intro; rfl) _)⟩
  | exit => exact ⟨Touch_leave _ _ _, rfl, .inl (runStatus_modifyRun_same _ _ (by intro; rfl) _)⟩

theorem FindOut.err_touch (h : FindOut a st r (.err st')) :
    Touch r st st' ∧ st'.s.pushed = st.s.pushed ∧ runStatus st'.s r = runStatus st.s r := by
  cases h with
  | noLocation => exact ⟨.refl _ _, rfl, rfl⟩
  | routeErr => exact ⟨Touch_logEvents _ _ _ _, logEvents_pushed _ _ _ _, runStatus_logEvents _ _ _ _ _⟩

theorem FindOut.ok_touch (h : FindOut a st r (.ok st' e)) :
    Touch r st st' ∧ st'.s.pushed = st.s.pushed ∧
    (runStatus st'.s r = runStatus st.s r ∨ e = none ∧ runStatus st'.s r = some .failed) ∧
    (e.isSome → runStatus st'.s r = some .active) := by
  cases h with
  | skip => exact ⟨.refl _ _, rfl, .inl rfl, fun h => by cases h⟩
  | pick hact _ evs h =>
    obtain ⟨t, hp, hs⟩ := h.touch
    rw [runStatus_logEvents, hact] at hs
    refine ⟨(Touch_logEvents _ _ _ _).trans t, hp.trans (logEvents_pushed _ _ _ _), hact ▸ hs, fun he => ?_⟩
    rcases hs with h | ⟨h, _⟩
    · exact h
    · rw [h] at he; cases he

theorem visited_touch (st : St) (r d : Nat) (vc : VisitChoice) :
    Touch r st (visited st r d vc) ∧ ∀ i, runStatus (visited st r d vc).s i = runStatus st.s i := by
  have t := (Touch_modifyRun st r (f := fun x => { x with path := x.path ++ [⟨d, none⟩] }) st.sp
    fun _ => ⟨rfl, rfl, rfl⟩).trans (Touch_logEvents _ r (some (createStep st r d).2) vc.events)
  have hr : ∀ i, runStatus (logEvents (createStep st r d).1 r (some (createStep st r d).2) vc.events).s i = runStatus st.s i :=
    fun i => by rw [runStatus_logEvents]; exact runStatus_modifyRun_same _ _ (by intro; rfl) _
  unfold visited setPushedOpt
  split
  · -- the state differs from `t`'s in `pushed`, which no field of `Touch` reads
    exact ⟨⟨t.ok, t.status, t.parents, t.fr⟩, hr⟩
  · exact ⟨t, hr⟩

/-- a visit of run `r` leaves its status as it was, fails it, or — exactly when the session starts waiting — makes it wait -/
structure VisitStat (r : Nat) (st st' : St) (e : Option (Option Nat)) : Prop where
  ok : SessOK st.s → runStatus st.s r = some .active → SessOK st'.s
  parents : parents st'.s = parents st.s
  fr : Fr r st.s st'.s
  stat : (st'.s.status = st.s.status ∧ (runStatus st'.s r = runStatus st.s r ∨
            st'.s.pushed = none ∧ e = none ∧ runStatus st'.s r = (runStatus st.s r).map fun _ => .failed)) ∨
         (st'.s.status = .waiting ∧ st'.s.pushed = none ∧ e = none ∧
            runStatus st'.s r = (runStatus st.s r).map fun _ => .waiting)
  exit : e.isSome → st'.s.pushed = none

theorem VisitOut.stat {r d : Nat} {vc : VisitChoice} {step0 step : StepRef}
    (hv : VisitOut (visited st r d vc) r node step0 (.ok st' step e)) : VisitStat r st st' e := by
  obtain ⟨t, hr⟩ := visited_touch st r d vc
  cases hv with
  | stay => exact ⟨fun h _ => t.ok h, t.parents, t.fr, .inl ⟨t.status, .inl (hr r)⟩, fun h => by cases h⟩
  | failed =>
    refine ⟨fun h _ => SessOK_exitRun r (t.ok h) (.inr (.inl rfl)), t.parents ▸ parents_modifyRun_same _ _ fun _ => rfl,
      t.fr.trans (Fr_modifyRun _ _ _), .inl ⟨t.status, .inr ⟨rfl, rfl, ?_⟩⟩, fun h => by cases h⟩
    rw [← hr r]; exact runStatus_modifyRun_set _ _ fun _ => rfl
  | wait hp =>
    refine ⟨fun h ha => SessOK_setStatus (t.ok h) ((hr r).trans ha) (by simp [Ended]) (by simp [Ended]),
      t.parents ▸ parents_modifyRun_same _ _ fun _ => rfl, t.fr.trans (Fr_modifyRun _ _ _), .inr ⟨rfl, hp, rfl, ?_⟩,
      fun h => by cases h⟩
    rw [← hr r]; exact runStatus_modifyRun_set _ _ fun _ => rfl
  | pick hp h =>
    obtain ⟨t', hp', hs⟩ := h.touch
    rw [hr] at hs
    exact ⟨fun h _ => t'.ok (t.ok h), t'.parents.trans t.parents, t.fr.trans t'.fr,
      .inl ⟨t'.status.trans t.status, hs.imp_right fun h => ⟨hp'.trans hp, h⟩⟩, fun _ => hp'.trans hp⟩

/-- the core invariant at the head of the loop -/
structure Core (l : Loop) : Prop where
  ok : SessOK l.st.s
  notWaiting : l.st.s.status ≠ .waiting
  exitActive : l.exit.isSome → l.st.s.pushed = none ∧ ∃ c, l.cur = some c ∧ runStatus l.st.s c = some .active
  pbc : PBC l.st.s
  curValid : ∀ c, l.cur = some c → c < l.st.s.runs.length

/-- what holds of a session handed back without error -/
structure Post (s : Session) : Prop where
  ok : SessOK s
  pushed : s.pushed = none
  status : s.status = .waiting ∨ s.status = .completed ∨ s.status = .failed
  pbc : PBC s

abbrev OkPost : Result → Prop := OnOk fun st => Post st.s

theorem Core.next (hc : Core l) {st' : St} (hok : SessOK st'.s) (hnw : st'.s.status ≠ .waiting)
    (hpar : parents st'.s = parents l.st.s) {stp : Option StepRef} {n : Int}
    (he : e.isSome → st'.s.pushed = none ∧ ∃ c, l.cur = some c ∧ runStatus st'.s c = some .active) :
    Core { st := st', cur := l.cur, exit := e, step := stp, n := n } :=
  ⟨hok, hnw, he, PBC_of_parents_eq hpar hc.pbc, fun c h => length_of_parents_eq hpar ▸ hc.curValid c h⟩

theorem DestOut.core {x : Loop × Option Nat} (h : DestOut a l x) (hc : Core l) :
    Core x.1 ∧ x.1.exit = none ∧ x.1.st.s.pushed = none ∧
    (x.2.isSome → ∃ c, x.1.cur = some c ∧ runStatus x.1.st.s c = some .active) := by
  cases h with
  | push p hp s0 hs0 dest =>
    have hex : l.exit = none := by
      cases he : l.exit with
      | none => rfl
      | some d => have := (hc.exitActive (by simp [he])).1; rw [hp] at this; cases this
    have h0 : SessOK s0 ∧ s0.status = l.st.s.status ∧ parents s0 = parents l.st.s := by
      subst hs0; split
      · exact ⟨SessOK_map (fun _ _ => by simp [RunOK, Ended]) hc.ok _, rfl, parents_exitAll _⟩
      · exact ⟨hc.ok, rfl, rfl⟩
    refine ⟨⟨SessOK_pushRun _ _ h0.1, h0.2.1 ▸ hc.notWaiting, (fun he => by rw [hex] at he; cases he), ?_, ?_⟩,
      hex, rfl, fun _ => ⟨_, rfl, by simp [runStatus_pushRun]⟩⟩
    · exact PBC_pushRun _ (PBC_of_parents_eq h0.2.2 hc.pbc) fun q hq => length_of_parents_eq h0.2.2 ▸ hc.curValid q hq
    · intro c hcc; cases hcc; simp [pushRun]
  | follow hp d hd =>
    exact ⟨⟨hc.ok, hc.notWaiting, (fun he => by cases he), hc.pbc, hc.curValid⟩, rfl, hp,
      fun _ => (hc.exitActive (by simp [hd])).2⟩
  | idle hp he => exact ⟨hc, he, hp, fun h => by cases h⟩

theorem endStatus_cases (s : Session) (cur : Nat) : endStatus s cur = .completed ∨ endStatus s cur = .failed := by
  unfold endStatus; split <;> simp

/-- `l'` is `l` with its current run `cur` finished, there being no exit to follow and nothing pushed -/
structure Done (l l' : Loop) (cur : Nat) : Prop where
  core : Core l'
  exit : l'.exit = none
  pushed : l'.st.s.pushed = none
  fr : Fr cur l.st.s l'.st.s
  parents : parents l'.st.s = parents l.st.s
  notActive : runStatus l'.st.s cur ≠ some .active
  notWaiting : runStatus l'.st.s cur ≠ some .waiting

theorem Core.finish (hc : Core l) (hex : l.exit = none) (hp : l.st.s.pushed = none)
    (hcur : l.cur = some cur) : Done l (finished l cur) cur := by
  obtain ⟨x, hx⟩ : ∃ x, l.st.s.runs[cur]? = some x := ⟨_, List.getElem?_eq_getElem (hc.curValid cur hcur)⟩
  unfold finished finishRun
  split
  next hexited =>
    -- already exited, hence ended
    have hended : Ended x.status := (hc.ok cur x hx).1 (by simpa [hx] using hexited)
    have hne : ∀ q : RunStatus, ¬ Ended q → runStatus l.st.s cur ≠ some q := fun q hq e => by
      rw [runStatus_of_getElem? hx] at e; cases e; exact hq hended
    exact { core := hc, exit := hex, pushed := hp, fr := fun _ _ => rfl, parents := rfl,
            notActive := hne _ (by simp [Ended]), notWaiting := hne _ (by simp [Ended]) }
  next =>
    exact {
      core := hc.next (st' := ⟨exitRun l.st.s cur .completed, l.st.sp⟩) (SessOK_exitRun cur hc.ok (.inl rfl)) hc.notWaiting
        (parents_modifyRun_same _ _ (by intro; rfl)) (by simp [hex])
      exit := hex
      pushed := hp
      fr := Fr_modifyRun _ _ _
      parents := parents_modifyRun_same _ _ (by intro; rfl)
      notActive := by simp [exitRun, runStatus_modifyRun, hx]
      notWaiting := by simp [exitRun, runStatus_modifyRun, hx] }

theorem finished_of_failed (hok : SessOK l.st.s) (hf : runStatus l.st.s cur = some .failed) :
    finished l cur = l := by
  obtain ⟨x, hx⟩ : ∃ x, l.st.s.runs[cur]? = some x := ⟨_, List.getElem?_eq_getElem (runStatus_lt hf)⟩
  have : x.exited = true := (hok cur x hx).2 (.inr (.inl (Option.some.inj ((runStatus_of_getElem? hx).symm.trans hf))))
  simp [finished, finishRun, hx, this]

theorem NoDestOut.core (h : NoDestOut a l cur res)
    (hc : Core l) (hex : l.exit = none) (hp : l.st.s.pushed = none) (hcur : l.cur = some cur) :
    IterPost Core OkPost res := by
  -- the parent is an earlier run, so it can be the current run
  have toP : ∀ {p : Nat}, (l.st.s.runs[cur]?).bind (·.parent) = some p → ∀ {st' : St}, Touch p l.st st' →
      ∀ {e : Option (Option Nat)} {stp : Option StepRef},
      (e.isSome → st'.s.pushed = none ∧ runStatus st'.s p = some .active) →
      Core { st := st', cur := some p, exit := e, step := stp, n := l.n } := by
    intro p hpar st' t e stp he
    have hlt : p < l.st.s.runs.length := Nat.lt_trans (hc.pbc cur p (parents_eq_some.2 hpar)) (hc.curValid cur hcur)
    exact ⟨t.ok hc.ok, t.status ▸ hc.notWaiting, fun h => ⟨(he h).1, p, rfl, (he h).2⟩, PBC_of_parents_eq t.parents hc.pbc,
      fun c hcc => by cases hcc; exact length_of_parents_eq t.parents ▸ hlt⟩
  cases h with
  | ended => exact ⟨hc.ok, hp, .inr (endStatus_cases _ _), hc.pbc⟩
  | childFailed hpar => exact toP hpar (Touch_failRun _ _ _) (by simp [toParent, hex])
  | noFlow hpar => exact toP hpar (Touch_failRun _ _ _) (by simp [toParent, hex])
  | findErr hpar _ h => exact toP hpar (h.err_touch.1.trans (Touch_failRun _ _ _)) (by simp)
  | findOk hpar _ h => exact toP hpar h.ok_touch.1 fun he => ⟨h.ok_touch.2.1.trans hp, h.ok_touch.2.2.2 he⟩
  | tapeErr => trivial

theorem GoDestOut.core {cur d : Nat}
    (h : GoDestOut a o l cur d res) (hc : Core l) (hex : l.exit = none) (hcur : l.cur = some cur)
    (hact : runStatus l.st.s cur = some .active) : IterPost Core OkPost res := by
  cases h with
  | limit =>
    have t := Touch_failRun l.st cur l.step
    exact hc.next (t.ok hc.ok) (t.status ▸ hc.notWaiting) t.parents (by simp [hex])
  | noNode => trivial
  | visitErr => trivial
  | waits _ _ _ hv hw =>
    have v := hv.stat
    rcases v.stat with ⟨hs, _⟩ | ⟨_, hp, _⟩
    · exact absurd (hs ▸ hw) hc.notWaiting
    · exact ⟨v.ok hc.ok hact, hp, .inl hw, PBC_of_parents_eq v.parents hc.pbc⟩
  | next _ _ _ hv hw =>
    have v := hv.stat
    refine hc.next (v.ok hc.ok hact) hw v.parents fun he => ⟨v.exit he, cur, hcur, ?_⟩
    rcases v.stat with ⟨_, h | ⟨_, h, _⟩⟩ | ⟨h, _⟩
    · exact h.trans hact
    · rw [h] at he; cases he
    · exact absurd h hw
  | tapeErr => trivial

theorem iter_cases (hc : Core l) {motive : Sum Loop Result → Prop}
    (tape : motive (.inr (.tapeErr 31)))
    (noDest : ∀ {l1 : Loop} {cur : Nat} {res}, DestOut a l (l1, none) → Core l1 → l1.exit = none → l1.st.s.pushed = none →
      l1.cur = some cur → Done l1 (finished l1 cur) cur → NoDestOut a (finished l1 cur) cur res → motive res)
    (goDest : ∀ {l1 : Loop} {cur d : Nat} {res}, DestOut a l (l1, some d) → Core l1 → l1.exit = none → l1.st.s.pushed = none →
      l1.cur = some cur → runStatus l1.st.s cur = some .active → GoDestOut a o l1 cur d res → motive res) :
    motive (iter a o orc l) :=
  iter_elim tape
    (fun hd hcur h => by
      obtain ⟨h1, hex, hp, _⟩ := hd.core hc
      exact noDest hd h1 hex hp hcur (h1.finish hex hp hcur) h)
    (fun hd hcur h => by
      obtain ⟨h1, hex, hp, hdest⟩ := hd.core hc
      obtain ⟨c, hc', hact⟩ := hdest rfl
      obtain rfl : _ = c := Option.some.inj (hcur.symm.trans hc')
      exact goDest hd h1 hex hp hcur hact h)

theorem iter_core (a : Assets) (o : Opts) (orc : Oracle) (l : Loop) (hc : Core l) :
    IterPost Core OkPost (iter a o orc l) :=
  iter_cases hc trivial
    (fun _ _ _ _ hcur hd h => h.core hd.core hd.exit hd.pushed hcur)
    (fun _ h1 hex _ hcur hact h => h.core h1 hex hcur hact)

theorem loop_core_fuel {I : Nat → Loop → Prop} {Q : Result → Prop}
    (step : ∀ fuel l, Core l → I (fuel + 1) l → IterPost (fun l' => Core l' → I fuel l') Q (iter a o orc l))
    (h0 : ∀ l, I 0 l → Q .outOfFuel) : ∀ (fuel : Nat) (l : Loop), Core l → I fuel l → Q (loop a o orc fuel l)
  | 0, l, _, hi => h0 l hi
  | fuel + 1, l, hc, hi => by
    have h1 := iter_core a o orc l hc
    have h2 := step fuel l hc hi
    simp only [loop]
    split
    next l' heq => rw [heq] at h1 h2; exact loop_core_fuel step h0 fuel l' h1 (h2 h1)
    next r heq => rw [heq] at h2; exact h2

theorem loop_core {I : Loop → Prop} {Q : Result → Prop}
    (step : ∀ l, Core l → I l → IterPost I Q (iter a o orc l)) (hQ : Q .outOfFuel)
    (fuel : Nat) (l : Loop) (hc : Core l) (hi : I l) : Q (loop a o orc fuel l) :=
  loop_core_fuel (I := fun _ => I) (fun _ l hc hi => (step l hc hi).imp (fun _ h _ => h) fun _ h => h) (fun _ _ => hQ)
    fuel l hc hi

theorem logSprintOnly_s (st : St) (ks : List EvK) : (logSprintOnly st ks).s = st.s := rfl

theorem Core_start (orc : Oracle) : Core (startLoop orc) where
  ok := fun i x hx => by simp [startLoop, emptySession] at hx
  notWaiting := by simp [startLoop, emptySession]
  exitActive := by simp [startLoop]
  pbc := fun i p h => by simp [parents, startLoop, emptySession] at h
  curValid := by simp [startLoop]

theorem start_post (a : Assets) (o : Opts) (orc : Oracle) : OkPost (start a o orc) := by
  rw [start_eq]
  split
  · trivial
  · exact loop_inv (iter_core a o orc) trivial _ _ (Core_start orc)

theorem baseApply_touch (orc : Oracle) (st : St) (r : Nat) (step : StepRef) :
    Touch r st (baseApply orc st r step) ∧ (baseApply orc st r step).s.pushed = st.s.pushed := by
  have t := Touch_logEvents st r (some step) orc.applyBase
  unfold baseApply
  simp only
  split
  next hw =>
    exact ⟨t.trans ⟨fun h => SessOK_setStatus h hw (by simp [Ended]) (by simp [Ended]), rfl,
      parents_modifyRun_same _ _ fun _ => rfl, Fr_modifyRun _ _ _⟩, logEvents_pushed _ _ _ _⟩
  next => exact ⟨t, logEvents_pushed _ _ _ _⟩

theorem applyResume_touch (orc : Oracle) (st : St) (r : Nat) (step : StepRef) (k : ResumeKind) :
    Touch r st (applyResume orc st r step k) ∧ (applyResume orc st r step k).s.pushed = st.s.pushed := by
  have fin : ∀ {st' : St}, Touch r st st' → st'.s.pushed = st.s.pushed →
      Touch r st (logEvents st' r (some step) orc.applyGroups) ∧
      (logEvents st' r (some step) orc.applyGroups).s.pushed = st.s.pushed :=
    fun t hp => ⟨t.trans (Touch_logEvents _ _ _ _), (logEvents_pushed _ _ _ _).trans hp⟩
  have log : ∀ (st' : St) (k : EvK), Touch r st' (logEvent st' r (some step) k) := fun st' k => Touch_logEvents st' r _ [k]
  unfold applyResume
  cases k with
  | msg =>
    obtain ⟨t, hp⟩ := baseApply_touch orc st r step
    exact fin (t.trans (log _ _)) hp
  | timeout =>
    obtain ⟨t, hp⟩ := baseApply_touch orc (logEvent st r (some step) ⟨resumeEventKind .timeout, false⟩) r step
    exact fin ((log _ _).trans t) hp
  | dial =>
    obtain ⟨t, hp⟩ := baseApply_touch orc (logEvent st r (some step) ⟨resumeEventKind .dial, false⟩) r step
    exact fin ((log _ _).trans t) hp
  | expiration =>
    obtain ⟨t, hp⟩ := baseApply_touch orc
      (logEvent { st with s := exitRun st.s r .expired } r (some step) ⟨resumeEventKind .expiration, false⟩) r step
    exact fin (((Touch_exitRun st r (.inr (.inr rfl))).trans (log _ _)).trans t) hp

theorem applied_touch (orc : Oracle) (s : Session) (k : ResumeKind) (w : Nat) (step : StepRef) :
    Touch w ⟨{ s with status := .active }, []⟩ (applied orc s k w step) ∧ (applied orc s k w step).s.pushed = s.pushed :=
  applyResume_touch orc _ w step k

theorem Core_resume {k : ResumeKind} {w : Nat} {st' : St}
    (hok : SessOK s) (hp : s.pushed = none) (hpbc : PBC s) (hw : waitingRun s = some w)
    (h : FindOut a (applied orc s k w step) w (.ok st' e)) :
    Core { st := st', cur := some w, exit := e, step := some step, n := 0 } := by
  obtain ⟨t, hpa⟩ := applied_touch orc s k w step
  obtain ⟨t', hp', _, he⟩ := h.ok_touch
  have hpar : parents st'.s = parents s := t'.parents.trans t.parents
  exact ⟨t'.ok (t.ok hok), by rw [t'.status, t.status]; simp, fun h => ⟨hp'.trans (hpa.trans hp), w, rfl, he h⟩,
    PBC_of_parents_eq hpar hpbc, fun c hc => by cases hc; exact length_of_parents_eq hpar ▸ runStatus_lt (waitingRun_spec hw)⟩

theorem SessOK_failSession (w : Nat) (h : SessOK st.s) : SessOK (failSession st w).s :=
  SessOK_map (fun x hx => by split <;> simp_all [RunOK, Ended]) ((Touch_failRun st w none).ok h) _

theorem parents_failSession (st : St) (w : Nat) : parents (failSession st w).s = parents st.s := by
  simp only [parents, failSession, List.map_map]
  exact (List.map_congr_left fun x _ => by simp only [Function.comp]; split <;> rfl).trans (Touch_failRun st w none).parents

theorem failSession_off (st : St) (w i : Nat) :
    runStatus (failSession st w).s i ≠ some .active ∧ runStatus (failSession st w).s i ≠ some .waiting := by
  simp only [failSession, runStatus, List.getElem?_map]
  cases (failRun st w none).s.runs[i]? with
  | none => simp
  | some x => by_cases hl : x.status = .active ∨ x.status = .waiting <;> simp_all

theorem failSession_post (w : Nat) (h : SessOK st.s) (hp : st.s.pushed = none) (hpbc : PBC st.s) :
    Post (failSession st w).s :=
  ⟨SessOK_failSession w h, hp, .inr (.inr rfl), PBC_of_parents_eq (parents_failSession st w) hpbc⟩

theorem resume_post (a : Assets) (o : Opts) (orc : Oracle) (s : Session) (k : ResumeKind)
    (h : Post s) : OkPost (resume a o orc s k) := by
  obtain ⟨h, hp, _, hpbc⟩ := h
  have hr := resume_out a o orc s k
  generalize resume a o orc s k = res at hr
  cases hr with
  | rejected => trivial
  | unrecoverable w => exact failSession_post w h hp hpbc
  | findErr hw _ hf =>
    obtain ⟨t, hpa⟩ := applied_touch orc s k _ _
    obtain ⟨t', hp', _⟩ := hf.err_touch
    exact failSession_post _ (t'.ok (t.ok h)) (hp'.trans (hpa.trans hp)) (PBC_of_parents_eq (t'.parents.trans t.parents) hpbc)
  | loop hw _ hf => exact loop_inv (iter_core a o orc) trivial _ _ (Core_resume h hp hpbc hw hf)
  | tapeErr => trivial

end GoflowModel.Engine
