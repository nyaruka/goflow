import GoflowModel.Migrate.Steps
/-!
`graph` is the view of a definition that carries its identity and connectivity; the traversal helpers of
`Migrate/Steps.lean` leave it alone.
-/
namespace GoflowModel.Migrate.Steps
open GoflowModel.Json GoflowModel.Migrate

/-- `h` is found by `simp` at each use, which compares the literals as strings; `decide` on the `toList`s would decode
both from their bytes, at ten times the work. -/
theorem key_ne {s t : String} (h : s ≠ t := by simp) : s.toList ≠ t.toList := fun e => h (String.toList_inj.1 e)

theorem get_set_eq (k : Str) (v : J) (o : JO) : get k (set k v o) = some v := by
  fun_induction set k v o <;> simp [get, *]

theorem get_set_ne {k k' : Str} (h : k' ≠ k) (v : J) (o : JO) : get k (set k' v o) = get k o := by
  fun_induction set k' v o <;> simp_all [get]

theorem get_del_eq (k : Str) (o : JO) : get k (del k o) = none := by
  fun_induction del k o <;> simp [get, *]

theorem get_del_ne {k k' : Str} (h : k' ≠ k) (o : JO) : get k (del k' o) = get k o := by
  fun_induction del k' o <;> simp_all [get]

theorem set_set (k : Str) (v w : J) (o : JO) : set k w (set k v o) = set k w o := by
  fun_induction set k v o <;> simp [set, *]

theorem set_get_self {k : Str} {v : J} {o : JO} (h : get k o = some v) : set k v o = o := by
  fun_induction set k v o <;> simp_all [get]

theorem isType_set_ne {k : Str} (h : k ≠ "type".toList) (ty : String) (v : J) (a : JO) :
    isType ty (set k v a) = isType ty a := by
  unfold isType; rw [get_set_ne h]

/-- of a node: its `uuid` and its `exits` (exit UUIDs and destinations are inside) -/
def nodeView : J → Option (Option J × Option J)
  | .obj n => some (get "uuid".toList n, get "exits".toList n)
  | _ => none

def viewL : JL → List (Option (Option J × Option J))
  | .nil => []
  | .cons x rest => nodeView x :: viewL rest

/-- of a definition: its `uuid`, and its nodes in their order, each with its `uuid` and `exits` -/
def graph (f : JO) : Option J × Option (List (Option (Option J × Option J))) :=
  (get "uuid".toList f,
   match get "nodes".toList f with
   | some (.arr l) => some (viewL l)
   | _ => none)

def KeepsNode {S : Type} (h : S → JO → S × JO) : Prop :=
  ∀ s o, nodeView (.obj (h s o).2) = nodeView (.obj o)

theorem viewL_mapObjs {S : Type} (h : S → JO → S × JO) (hk : KeepsNode h) (s : S) (l : JL) :
    viewL (mapObjs h s l).2 = viewL l := by
  fun_induction mapObjs h s l with
  | case1 => rfl
  | case2 s o rest r r' ih => simp only [viewL, r', r, hk s o, ih]
  | case3 s x rest hx r' ih => simp only [viewL, r', ih]

theorem get_onKeyArr_ne {S : Type} {k k' : Str} (h : k' ≠ k) (f : S → JO → S × JO) (s : S) (o : JO) :
    get k (onKeyArr k' f s o).2 = get k o := by
  fun_cases onKeyArr k' f s o <;> simp [get_set_ne h]

theorem graph_set_ne {k : Str} (hu : k ≠ "uuid".toList) (hn : k ≠ "nodes".toList) (v : J) (f : JO) :
    graph (set k v f) = graph f := by
  unfold graph
  rw [get_set_ne hu, get_set_ne hn]

theorem graph_onNodes {S : Type} (h : S → JO → S × JO) (hk : KeepsNode h) (s : S) (f : JO) :
    graph (onKeyArr "nodes".toList h s f).2 = graph f := by
  fun_cases onKeyArr "nodes".toList h s f with
  | case1 l hl r =>
    unfold graph
    rw [get_set_ne key_ne, get_set_eq, hl]
    simp only [r, viewL_mapObjs h hk s l]
  | case2 => rfl

theorem keepsNode_onActions {S : Type} (g : S → JO → S × JO) : KeepsNode (onKeyArr "actions".toList g) := fun s o => by
  simp only [nodeView]
  rw [get_onKeyArr_ne key_ne, get_onKeyArr_ne key_ne]

theorem graph_onActions {S : Type} (g : S → JO → S × JO) (s : S) (f : JO) : graph (onActions g s f).2 = graph f :=
  graph_onNodes _ (keepsNode_onActions g) s f

theorem get_putLocalization_ne {k : Str} (h : "localization".toList ≠ k) (l : Option JO) (f : JO) :
    get k (putLocalization l f) = get k f := by
  cases l with
  | none => rfl
  | some l => exact get_set_ne h ..

theorem graph_putLocalization (l : Option JO) (f : JO) : graph (putLocalization l f) = graph f := by
  unfold graph
  rw [get_putLocalization_ne key_ne, get_putLocalization_ne key_ne]

theorem act13_1_snd (gen : Nat → Str) (n : Nat) {a t : JO} (ht : isType "send_msg" a = true)
    (h : get "templating".toList a = some (.obj t)) :
    (act13_1 gen n a).2 = set "templating".toList (.obj (set "uuid".toList (.str (gen n)) t)) a := by
  unfold act13_1; rw [if_pos ht, h]

theorem act13_4_snd (gen : Nat → Str) (s : Nat × Option JO) {a t : JO} (ht : isType "send_msg" a = true)
    (h : get "templating".toList a = some (.obj t)) :
    (act13_4 gen s a).2 = set "templating".toList (.obj (del "variables".toList (del "uuid".toList (set "components".toList
      (.arr (.cons (.obj (.cons "uuid".toList (.str (gen s.1)) (.cons "name".toList (.str "body".toList)
        (.cons "params".toList (.arr (varsOf t)) .nil)))) .nil)) t)))) a := by
  unfold act13_4; rw [if_pos ht, h]

theorem templating13_4 (c : J) (t : JO) :
    let t' := del "variables".toList (del "uuid".toList (set "components".toList c t))
    get "uuid".toList t' = none ∧ get "variables".toList t' = none ∧ get "components".toList t' = some c := by
  refine ⟨?_, get_del_eq .., ?_⟩
  · rw [get_del_ne key_ne, get_del_eq]
  · rw [get_del_ne key_ne, get_del_ne key_ne, get_set_eq]

end GoflowModel.Migrate.Steps
