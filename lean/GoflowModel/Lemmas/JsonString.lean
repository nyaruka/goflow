import GoflowModel.Basic.JsonString
import GoflowModel.Lemmas.Quote
/-! `decode (encode s) = some s`: both readers read every form JSON writes a character in (`Esc`) back as
that character, whatever follows. -/
namespace GoflowModel.JsonString
open GoflowModel.Quote

/-- the two-character escapes of RFC 8259 -/
def shortEscapes : List (Char × Char) :=
  [('"', '"'), ('\\', '\\'), ('/', '/'), ('b', '\x08'), ('f', '\x0c'), ('n', '\n'), ('r', '\r'), ('t', '\t')]

/-- `Esc c e`: `e` is one of the ways to write `c` in a JSON string literal (`\u` in the basic plane only, where no
`Char` is a surrogate) -/
inductive Esc : Char → List Char → Prop
  | raw {c} : c ≠ '"' → c ≠ '\\' → ¬ c.toNat < 0x20 → Esc c [c]
  | short {l c} : (l, c) ∈ shortEscapes → Esc c ['\\', l]
  | u {c} : c.toNat < 0x10000 → Esc c ('\\' :: 'u' :: hex4 c.toNat)

theorem escRune_esc (c : Char) : Esc c (escRune c) :=
  iteInduction (fun h => by rcases h with rfl | rfl <;> exact .short (by decide)) fun hq =>
  iteInduction (fun h => h ▸ .short (by decide)) fun _ =>
  iteInduction (fun h => h ▸ .short (by decide)) fun _ =>
  iteInduction (fun h => h ▸ .short (by decide)) fun _ =>
  iteInduction (fun h => h ▸ .short (by decide)) fun _ =>
  iteInduction (fun h => h ▸ .short (by decide)) fun _ =>
  iteInduction (fun h => .u (by omega)) fun h =>
  .raw (fun e => hq (.inl e)) (fun e => hq (.inr e)) fun hc => h (.inl hc)

theorem reads_encode {D : List Char → Option (List Char)}
    (hD : ∀ {c e}, Esc c e → ∀ r, D (e ++ r) = consO c (D r)) (hq : D ['"'] = some []) (s : List Char) :
    D (escBody s ++ ['"']) = some s := by
  induction s with
  | nil => exact hq
  | cons c s ih =>
    rw [escBody, List.flatMap_cons, List.append_assoc, hD (escRune_esc c), ← escBody, ih]
    rfl

theorem decGo_raw (c : Char) (r : List Char) (h1 : c ≠ '"') (h2 : c ≠ '\\') (h3 : ¬ c.toNat < 0x20) :
    decGo none (c :: r) = consO c (decGo none r) := by
  simp [decGo, flush, *]

theorem decGo_short : ∀ p ∈ shortEscapes, ∀ r, decGo none ('\\' :: p.1 :: r) = consO p.2 (decGo none r) := by
  simp only [shortEscapes, List.forall_mem_cons, decGo, flush]
  simp

theorem decGo_u (c : Char) (r : List Char) (h : c.toNat < 65536) :
    decGo none ('\\' :: 'u' :: hex4 c.toNat ++ r) = consO c (decGo none r) := by
  have := parseHex_hex4 c.toNat h
  have hv : c.toNat < 0xd800 ∨ 0xdfff < c.toNat ∧ c.toNat < 0x110000 := c.valid
  simp only [hex4, hex2, List.cons_append, List.nil_append] at this ⊢
  simp only [decGo, this, isHighSurrogate, isLowSurrogate, decide_eq_true_eq]
  rw [if_neg (by omega), if_neg (by omega), Char.ofNat_toNat]

theorem decGo_esc {c : Char} {e : List Char} (h : Esc c e) (r : List Char) :
    decGo none (e ++ r) = consO c (decGo none r) := by
  cases h with
  | raw h1 h2 h3 => exact decGo_raw c r h1 h2 h3
  | short h => exact decGo_short _ h r
  | u h => exact decGo_u c r h

theorem decGo_escRune (c : Char) (r : List Char) : decGo none (escRune c ++ r) = consO c (decGo none r) :=
  decGo_esc (escRune_esc c) r

theorem decodeStd_encode (s : List Char) : decodeStd (encode s) = some s :=
  reads_encode decGo_esc rfl s

theorem decJP_raw (c : Char) (r : List Char) (h1 : c ≠ '"') (h2 : c ≠ '\\') :
    decJP none (c :: r) = consO c (decJP none r) := by
  simp [decJP, *]

theorem decJP_short : ∀ p ∈ shortEscapes, ∀ r, decJP none ('\\' :: p.1 :: r) = consO p.2 (decJP none r) := by
  simp only [shortEscapes, List.forall_mem_cons, decJP]
  simp

theorem decJP_u (c : Char) (r : List Char) (h : c.toNat < 65536) :
    decJP none ('\\' :: 'u' :: hex4 c.toNat ++ r) = consO c (decJP none r) := by
  have := parseHex_hex4 c.toNat h
  have hv : c.toNat < 0xd800 ∨ 0xdfff < c.toNat ∧ c.toNat < 0x110000 := c.valid
  simp only [hex4, hex2, List.cons_append, List.nil_append] at this ⊢
  simp only [decJP, this]
  rw [if_neg (by omega), Char.ofNat_toNat]

theorem decJP_esc {c : Char} {e : List Char} (h : Esc c e) (r : List Char) :
    decJP none (e ++ r) = consO c (decJP none r) := by
  cases h with
  | raw h1 h2 _ => exact decJP_raw c r h1 h2
  | short h => exact decJP_short _ h r
  | u h => exact decJP_u c r h

theorem decJP_escRune (c : Char) (r : List Char) : decJP none (escRune c ++ r) = consO c (decJP none r) :=
  decJP_esc (escRune_esc c) r

/-- **`decode (encode s) = some s`**: both readers read the written literal as the string -/
theorem decode_encode (s : List Char) : decode (encode s) = some s := by
  unfold decode
  rw [decodeStd_encode]
  simp only [encode]
  rw [reads_encode decJP_esc rfl]
  rfl

end GoflowModel.JsonString
