import GoflowModel.ContactQL.Parser
import GoflowModel.Lemmas.CQL
/-!
The printed text of a query lexes to the tokens the printer model writes (`queryToks`): the bridge
from the token-level round trip (`Lemmas/CQLParse`) to a text-level one.

Every token consumes at least one character, so `lexAll`'s fuel (length + 1) always suffices (`lexAll_eq`); each kind of
printed token, followed by a space, a closing parenthesis or the end of the text (`Sep`), is the token the lexer
produces next.
-/
namespace GoflowModel.ContactQL
open GoflowModel Quote LexText

theorem tokenAt_shorter {cls : Cls} {inp : List Char} {t : Tok} {rest : List Char}
    (h : tokenAt cls inp = some (t, rest)) : rest.length < inp.length := by
  revert h
  fun_cases tokenAt cls inp
  case case1 => nofun
  -- in every other branch the rest is the input less its first characters (a word has its first: `takeWhile_cons_of_pos`)
  all_goals
    rintro ⟨⟩
    simp +zetaDelta only [*, List.takeWhile_cons_of_pos, List.length_cons, List.length_drop]
    omega

theorem nextToken_shorter {cls : Cls} {inp : List Char} {t : Tok} {rest : List Char}
    (h : nextToken cls inp = some (t, rest)) : rest.length < inp.length := by
  have := tokenAt_shorter h
  have := (List.dropWhile_sublist isWS (l := inp)).length_le
  omega

theorem lexAllAux_fuel (cls : Cls) : ∀ (f g : Nat) (inp : List Char), inp.length < f → inp.length < g →
    lexAllAux cls f inp = lexAllAux cls g inp
  | f + 1, g + 1, inp, hf, hg => by
    rw [lexAllAux, lexAllAux]
    cases hn : nextToken cls inp with
    | none => rfl
    | some p =>
      have := nextToken_shorter hn
      exact congrArg _ (lexAllAux_fuel cls f g p.2 (by omega) (by omega))

theorem lexAll_eq (cls : Cls) (inp : List Char) :
    lexAll cls inp = match nextToken cls inp with
      | none => []
      | some (t, rest) => t :: lexAll cls rest := by
  rw [lexAll, lexAllAux]
  cases h : nextToken cls inp with
  | none => rfl
  | some p => exact congrArg _ (lexAllAux_fuel cls _ _ p.2 (nextToken_shorter h) (Nat.lt_succ_self _))

theorem nextToken_space (cls : Cls) (inp : List Char) : nextToken cls (' ' :: inp) = nextToken cls inp := by
  simp [nextToken, isWS]

theorem lexAll_space (cls : Cls) (inp : List Char) : lexAll cls (' ' :: inp) = lexAll cls inp := by
  rw [lexAll_eq, nextToken_space, ← lexAll_eq]

theorem lexAll_nil (cls : Cls) : lexAll cls [] = [] := rfl

/-- what the lexer's character classes must say about the few ASCII characters the printer writes
(the real `UnicodeLetter` / `UnicodeDigit` do) -/
structure ClsOK (cls : Cls) : Prop where
  punct : ∀ c ∈ [' ', '\t', '\n', '\r', '(', ')', '!', '=', '~', '>', '<', '"'], cls.textChar c = false
  dotL : cls.letter '.' = false
  dotD : cls.digit '.' = false
  letters : ∀ c ∈ "fieldsurnANDOR".toList, cls.letter c = true
  digits : ∀ c, isAsciiDigit c = true → cls.digit c = true ∧ cls.letter c = false

theorem keyChar_textChar {cls : Cls} {c : Char} (h : cls.keyChar c = true) : cls.textChar c = true := by
  simp [Cls.textChar, h]

theorem letter_keyChar {cls : Cls} {c : Char} (h : cls.letter c = true) : cls.keyChar c = true := by
  simp [Cls.keyChar, h]

theorem dot_not_keyChar {cls : Cls} (ok : ClsOK cls) : cls.keyChar '.' = false := by
  simp [Cls.keyChar, ok.dotL, ok.dotD]

/-- the characters that start an alternative of their own in `tokenAt`; white space and these are the `punct` of `ClsOK` -/
def special : List Char := ['(', ')', '!', '=', '~', '>', '<', '"']

theorem isWS_mem {c : Char} (h : isWS c = true) : c ∈ [' ', '\t', '\n', '\r'] := by
  simpa [isWS, or_assoc] using h

theorem ClsOK.ws {cls : Cls} (ok : ClsOK cls) {c : Char} (h : isWS c = true) : cls.textChar c = false :=
  ok.punct c (List.mem_append_left special (isWS_mem h))

theorem ClsOK.not_special {cls : Cls} (ok : ClsOK cls) {c : Char} (h : cls.textChar c = true) : c ∉ special := fun hm => by
  rw [ok.punct c (List.mem_append_right [' ', '\t', '\n', '\r'] hm)] at h
  cases h

theorem isWS_not_special {c : Char} (h : isWS c = true) : c ∉ special :=
  (by decide : ∀ c ∈ [' ', '\t', '\n', '\r'], c ∉ special) c (isWS_mem h)

/-- what can follow a printed token -/
inductive Sep : List Char → Prop
  | nil : Sep []
  | space r : Sep (' ' :: r)
  | rparen r : Sep (')' :: r)

theorem Sep.takeWhile {cls : Cls} (ok : ClsOK cls) {rest : List Char} (hs : Sep rest) {p : Char → Bool}
    (hp : ∀ c, p c = true → cls.textChar c = true) : rest.takeWhile p = [] := by
  cases hs with
  | nil => rfl
  | space r | rparen r =>
    refine List.takeWhile_cons_of_neg fun h => ?_
    have := hp _ h
    rw [ok.punct _ (by simp)] at this
    cases this

theorem tokenAt_lparen (cls : Cls) (r : List Char) : tokenAt cls ('(' :: r) = some (⟨.lparen, ['(']⟩, r) := rfl

theorem tokenAt_rparen (cls : Cls) (r : List Char) : tokenAt cls (')' :: r) = some (⟨.rparen, [')']⟩, r) := rfl

theorem tokenAt_cmp (cls : Cls) (op : Op) (rest : List Char) :
    tokenAt cls (op.text ++ ' ' :: rest) = some (⟨.comparator, op.text⟩, ' ' :: rest) := by
  cases op <;> rfl

/-- the `kind` that `tokenAt` works out for a run of text characters -/
def wordKind (cls : Cls) (inp : List Char) : TokKind :=
  let tlen := (inp.takeWhile cls.textChar).length
  let plen := propLen cls inp
  if tlen = 3 ∧ startsKw ['a', 'n', 'd'] inp then TokKind.and
  else if tlen = 2 ∧ startsKw ['o', 'r'] inp then TokKind.or
  else if tlen = 3 ∧ startsKw ['h', 'a', 's'] inp then TokKind.comparator
  else if tlen = 2 ∧ startsKw ['i', 's'] inp then TokKind.comparator
  else if plen = tlen then TokKind.property
  else TokKind.text

theorem tokenAt_other (cls : Cls) (c : Char) (r : List Char) (hc : c ∉ special) :
    tokenAt cls (c :: r) =
      if cls.textChar c then
        some (⟨wordKind cls (c :: r), (c :: r).take ((c :: r).takeWhile cls.textChar).length⟩,
          (c :: r).drop ((c :: r).takeWhile cls.textChar).length)
      else some (⟨.error, [c]⟩, r) := by
  unfold tokenAt
  -- every alternative comes with its equation `c :: r = pattern`
  split <;> cases ‹c :: r = _›
  rotate_right
  · rfl  -- the last alternative is the statement
  all_goals exact absurd (by decide) hc  -- the others are for a character that `hc` excludes

theorem nextToken_nows (cls : Cls) (c : Char) (r : List Char) (h : isWS c = false) :
    nextToken cls (c :: r) = tokenAt cls (c :: r) := by
  simp [nextToken, h]

theorem nextToken_of_tokenAt {cls : Cls} (ok : ClsOK cls) {inp : List Char} {t : Tok} {r : List Char}
    (h : tokenAt cls inp = some (t, r)) (hk : t.kind ≠ .error) : nextToken cls inp = some (t, r) := by
  cases inp with
  | nil => exact h
  | cons c r' =>
    cases hw : isWS c with
    | false => rwa [nextToken_nows cls c r' hw]
    | true =>
      -- white space is no text character, so `tokenAt` makes it an error token
      rw [tokenAt_other cls c r' (isWS_not_special hw), ok.ws hw] at h
      cases h
      exact absurd rfl hk

theorem lexAll_tok {cls : Cls} (ok : ClsOK cls) {inp : List Char} {t : Tok} {r : List Char}
    (h : tokenAt cls inp = some (t, r)) (hk : t.kind ≠ .error) : lexAll cls inp = t :: lexAll cls r := by
  rw [lexAll_eq, nextToken_of_tokenAt ok h hk]

theorem tokenAt_word {cls : Cls} (ok : ClsOK cls) (w rest : List Char) (hne : w ≠ [])
    (hall : ∀ c ∈ w, cls.textChar c = true) (hs : rest.takeWhile cls.textChar = []) :
    tokenAt cls (w ++ rest) = some (⟨wordKind cls (w ++ rest), w⟩, rest) := by
  have htw : (w ++ rest).takeWhile cls.textChar = w := by rw [List.takeWhile_append_of_pos hall, hs, List.append_nil]
  obtain ⟨c, w', rfl⟩ := List.exists_cons_of_ne_nil hne
  have hc := hall c (by simp)
  rw [List.cons_append, tokenAt_other cls c _ (ok.not_special hc), if_pos hc, ← List.cons_append, htw, List.take_left, List.drop_left]

def kwFree (w : List Char) : Prop :=
  w.map lowerAscii ≠ ['a', 'n', 'd'] ∧ w.map lowerAscii ≠ ['o', 'r'] ∧ w.map lowerAscii ≠ ['h', 'a', 's'] ∧
    w.map lowerAscii ≠ ['i', 's']

def kwLetters : List Char := ['a', 'n', 'd', 'o', 'r', 'h', 's', 'i']

theorem kwFree_of_mem {w : List Char} {c : Char} (hc : c ∈ w) (h : lowerAscii c ∉ kwLetters) : kwFree w := by
  have : ∀ kw, (∀ x ∈ kw, x ∈ kwLetters) → w.map lowerAscii ≠ kw :=
    fun kw hkw e => h (hkw _ (e ▸ List.mem_map_of_mem hc))
  exact ⟨this _ (by decide), this _ (by decide), this _ (by decide), this _ (by decide)⟩

theorem startsKw_whole (kw w rest : List Char) (h : w.length = kw.length) :
    startsKw kw (w ++ rest) = (w.map lowerAscii == kw) := by
  simp [startsKw, ← h]

theorem tokenAt_plain {cls : Cls} (ok : ClsOK cls) (w rest : List Char) (hne : w ≠ [])
    (hall : ∀ c ∈ w, cls.textChar c = true) (hs : Sep rest) (hk : kwFree w) :
    tokenAt cls (w ++ rest) =
      some (⟨if propLen cls (w ++ rest) = w.length then .property else .text, w⟩, rest) := by
  have hst := hs.takeWhile ok fun _ h => h
  have hkw : ∀ n kw, kw.length = n → w.map lowerAscii ≠ kw → ¬ (w.length = n ∧ startsKw kw (w ++ rest) = true) := by
    rintro n kw rfl hne ⟨hl, h⟩
    rw [startsKw_whole kw w rest hl] at h
    exact hne (eq_of_beq h)
  rw [tokenAt_word ok w rest hne hall hst, wordKind, List.takeWhile_append_of_pos hall, hst, List.append_nil,
    if_neg (hkw 3 _ rfl hk.1), if_neg (hkw 2 _ rfl hk.2.1), if_neg (hkw 3 _ rfl hk.2.2.1), if_neg (hkw 2 _ rfl hk.2.2.2)]

theorem propLen_key {cls : Cls} (ok : ClsOK cls) (w rest : List Char) (hall : ∀ c ∈ w, cls.keyChar c = true)
    (hs : Sep rest) : propLen cls (w ++ rest) = w.length := by
  -- where the letters end there is no `.` (a key character is none, nor is what follows), so `type.key` does not match
  have hnd : ∀ r, (w ++ rest).drop ((w ++ rest).takeWhile cls.letter).length ≠ '.' :: r := by
    induction w with
    | nil =>
      rw [List.nil_append, hs.takeWhile ok fun _ h => keyChar_textChar (letter_keyChar h)]
      cases hs <;> simp
    | cons c w ih =>
      cases hl : cls.letter c with
      | true => simpa [hl] using ih fun x hx => hall x (by simp [hx])
      | false =>
        intro r e
        rw [List.cons_append, List.takeWhile_cons_of_neg (by simp [hl])] at e
        cases e
        have := hall '.' (by simp)
        rw [dot_not_keyChar ok] at this
        cases this
  rw [propLen, List.takeWhile_append_of_pos hall, hs.takeWhile ok fun _ h => keyChar_textChar h, List.append_nil]
  split
  · split
    next r hdot => exact absurd hdot (hnd r)
    next => exact Nat.zero_max _
  · exact Nat.zero_max _

theorem propLen_prefixed {cls : Cls} (ok : ClsOK cls) (pre key rest : List Char) (hpre : pre ≠ [])
    (hp : ∀ c ∈ pre, cls.letter c = true) (hkne : key ≠ []) (hk : ∀ c ∈ key, cls.keyChar c = true) (hs : Sep rest) :
    propLen cls ((pre ++ '.' :: key) ++ rest) = (pre ++ '.' :: key).length := by
  have h1 : (pre ++ ('.' :: (key ++ rest))).takeWhile cls.letter = pre := by
    rw [List.takeWhile_append_of_pos hp, List.takeWhile_cons_of_neg (by simp [ok.dotL]), List.append_nil]
  have h2 : (pre ++ ('.' :: (key ++ rest))).takeWhile cls.keyChar = pre := by
    rw [List.takeWhile_append_of_pos fun c hc => letter_keyChar (hp c hc),
      List.takeWhile_cons_of_neg (by simp [dot_not_keyChar ok]), List.append_nil]
  have h3 : (key ++ rest).takeWhile cls.keyChar = key := by
    rw [List.takeWhile_append_of_pos hk, hs.takeWhile ok fun _ h => keyChar_textChar h, List.append_nil]
  have hpl : 1 ≤ pre.length := List.length_pos_iff.2 hpre
  have hkl : 1 ≤ key.length := List.length_pos_iff.2 hkne
  rw [List.append_assoc, List.cons_append]
  simp only [propLen, h1, h2, List.drop_left, h3, ge_iff_le, hpl, hkl, if_true, List.length_append, List.length_cons]
  -- restated: the sum as `propLen` has it carries metadata that `omega` does not look through
  show max (pre.length + 1 + key.length) pre.length = _
  omega

theorem tokenAt_key {cls : Cls} (ok : ClsOK cls) (w rest : List Char) (hne : w ≠ []) (hall : ∀ c ∈ w, cls.keyChar c = true)
    (hs : Sep rest) (hk : kwFree w) : tokenAt cls (w ++ rest) = some (⟨.property, w⟩, rest) := by
  rw [tokenAt_plain ok w rest hne (fun c hc => keyChar_textChar (hall c hc)) hs hk, propLen_key ok w rest hall hs, if_pos rfl]

theorem tokenAt_dotted {cls : Cls} (ok : ClsOK cls) (a b rest : List Char) (ha : ∀ c ∈ a, cls.keyChar c = true)
    (hb : ∀ c ∈ b, cls.keyChar c = true) (hs : Sep rest) :
    tokenAt cls ((a ++ '.' :: b) ++ rest) =
      some (⟨if propLen cls ((a ++ '.' :: b) ++ rest) = (a ++ '.' :: b).length then .property else .text, a ++ '.' :: b⟩, rest) := by
  refine tokenAt_plain ok _ rest (by simp) (fun c hc => ?_) hs (kwFree_of_mem (c := '.') (by simp) (by decide))
  simp only [List.mem_append, List.mem_cons] at hc
  rcases hc with hc | rfl | hc
  · exact keyChar_textChar (ha c hc)
  · simp [Cls.textChar]
  · exact keyChar_textChar (hb c hc)

theorem tokenAt_prefixed {cls : Cls} (ok : ClsOK cls) (pre key rest : List Char) (hpre : pre ≠ [])
    (hp : ∀ c ∈ pre, cls.letter c = true) (hkne : key ≠ []) (hk : ∀ c ∈ key, cls.keyChar c = true) (hs : Sep rest) :
    tokenAt cls ((pre ++ '.' :: key) ++ rest) = some (⟨.property, pre ++ '.' :: key⟩, rest) := by
  rw [tokenAt_dotted ok pre key rest (fun c hc => letter_keyChar (hp c hc)) hk hs,
    propLen_prefixed ok pre key rest hpre hp hkne hk hs, if_pos rfl]

theorem ClsOK.words {cls : Cls} (ok : ClsOK cls) :
    ∀ w ∈ ["fields", "urns", "AND", "OR"], ∀ c ∈ w.toList, cls.letter c = true :=
  fun w hw c hc => ok.letters c
    ((by decide : ∀ w ∈ ["fields", "urns", "AND", "OR"], ∀ c ∈ w.toList, c ∈ "fieldsurnANDOR".toList) w hw c hc)

theorem tokenAt_sep {cls : Cls} (ok : ClsOK cls) (isAnd : Bool) (rest : List Char) :
    tokenAt cls ((sepTok isAnd).text ++ ' ' :: rest) = some (sepTok isAnd, ' ' :: rest) := by
  have hst := (Sep.space rest).takeWhile ok fun _ h => h
  have hall : ∀ c ∈ (sepTok isAnd).text, cls.textChar c = true := fun c hc =>
    keyChar_textChar (letter_keyChar (by cases isAnd <;> exact ok.words _ (by simp) c hc))
  rw [tokenAt_word ok _ _ (by cases isAnd <;> simp [sepTok]) hall hst, wordKind, List.takeWhile_append_of_pos hall, hst]
  cases isAnd <;> simp [sepTok, startsKw, lowerAscii]

theorem digit_cases {P : Char → Prop} (h : ∀ c ∈ "0123456789".toList, P c) (c : Char) (hc : isAsciiDigit c = true) : P c := by
  simp only [isAsciiDigit, decide_eq_true_eq] at hc
  have a1 : 48 ≤ c.toNat := UInt32.le_iff_toNat_le.1 (Char.le_def.1 hc.1)
  have a2 : c.toNat ≤ 57 := UInt32.le_iff_toNat_le.1 (Char.le_def.1 hc.2)
  have := (by decide : ∀ n : Fin 10, Char.ofNat (48 + n.val) ∈ "0123456789".toList) ⟨c.toNat - 48, by omega⟩
  rw [show 48 + (c.toNat - 48) = c.toNat by omega, Char.ofNat_toNat] at this
  exact h c this

theorem digit_keyChar {cls : Cls} (ok : ClsOK cls) {c : Char} (h : isAsciiDigit c = true) : cls.keyChar c = true := by
  simp [Cls.keyChar, (ok.digits c h).1]

theorem isNumber_shape (v : List Char) (h : isNumber v = true) :
    ∃ a f, a ≠ [] ∧ (∀ c ∈ a, isAsciiDigit c = true) ∧ (∀ c ∈ f, isAsciiDigit c = true) ∧
      (v = a ∨ f ≠ [] ∧ v = a ++ '.' :: f) := by
  have hv := List.takeWhile_append_dropWhile (p := isAsciiDigit) (l := v)
  have ha := List.all_takeWhile (p := isAsciiDigit) (l := v)
  simp only [isNumber] at h
  generalize v.takeWhile isAsciiDigit = a at *
  generalize v.dropWhile isAsciiDigit = r at *
  subst hv
  simp only [Bool.and_eq_true, Bool.not_eq_true', Bool.or_eq_true, List.isEmpty_eq_false_iff, List.isEmpty_iff,
    List.all_eq_true] at h ha
  obtain ⟨hane, rfl | h⟩ := h
  · exact ⟨a, [], hane, ha, by simp, .inl (List.append_nil a)⟩
  · split at h
    · simp only [Bool.and_eq_true, Bool.not_eq_true', List.isEmpty_eq_false_iff, List.all_eq_true] at h
      exact ⟨a, _, hane, ha, h.2, .inr ⟨h.1, rfl⟩⟩
    · cases h

theorem tokenAt_number {cls : Cls} (ok : ClsOK cls) (v rest : List Char) (h : isNumber v = true) (hs : Sep rest) :
    tokenAt cls (v ++ rest) = some (⟨if v.contains '.' then .text else .property, v⟩, rest) := by
  obtain ⟨a, f, hane, hda, hdf, hv⟩ := isNumber_shape v h
  have hka : ∀ c ∈ a, cls.keyChar c = true := fun c hc => digit_keyChar ok (hda c hc)
  obtain ⟨c, a', rfl⟩ := List.exists_cons_of_ne_nil hane
  have hc := hda c (List.mem_cons_self ..)
  rcases hv with rfl | ⟨-, rfl⟩
  · have hnd : '.' ∉ c :: a' := fun hm => by
      have := hka _ hm
      rw [dot_not_keyChar ok] at this
      cases this
    have hkw : ∀ c, isAsciiDigit c = true → lowerAscii c ∉ kwLetters := digit_cases (by decide)
    rw [tokenAt_key ok _ rest hane hka hs (kwFree_of_mem (List.mem_cons_self ..) (hkw c hc))]
    simp [hnd]
  · -- the longest `PROPERTY` match stops at the dot: no letters before it, so not `type.key`
    have hp : propLen cls (((c :: a') ++ '.' :: f) ++ rest) = (c :: a').length := by
      rw [List.append_assoc, List.cons_append (as := f), propLen, List.takeWhile_append_of_pos hka,
        List.takeWhile_cons_of_neg (by simp [dot_not_keyChar ok]), List.append_nil]
      simp [(ok.digits c hc).2]
    rw [tokenAt_dotted ok _ f rest hka (fun c hc => digit_keyChar ok (hdf c hc)) hs, hp]
    simp

/-- the key of a printed condition: key characters only (field keys, URN schemes and attribute names
are), and for an attribute — which is printed without a prefix — not one of the keywords -/
def KeyOK (cls : Cls) (c : Cond) : Prop :=
  c.key ≠ [] ∧ (∀ ch ∈ c.key, cls.keyChar ch = true) ∧ (c.ptype = .attr → kwFree c.key)

theorem tokenAt_prop {cls : Cls} (ok : ClsOK cls) (c : Cond) (h : KeyOK cls c) (rest : List Char) (hs : Sep rest) :
    tokenAt cls (propText c ++ rest) = some (⟨.property, propText c⟩, rest) := by
  obtain ⟨pt, key, op, v⟩ := c
  obtain ⟨hne, hk, hkw⟩ := h
  cases pt with
  | attr => exact tokenAt_key ok key rest hne hk hs (hkw rfl)
  | field =>
    simpa [propText] using tokenAt_prefixed ok "fields".toList key rest (by simp) (ok.words "fields" (by simp)) hne hk hs
  | urn =>
    simpa [propText] using tokenAt_prefixed ok "urns".toList key rest (by simp) (ok.words "urns" (by simp)) hne hk hs

theorem tokenAt_value {cls : Cls} (ok : ClsOK cls) (pr : Char → Bool) (v rest : List Char) (hs : Sep rest) :
    tokenAt cls ((valueTok pr v).text ++ rest) = some (valueTok pr v, rest) := by
  unfold valueTok
  split
  next hn => exact tokenAt_number ok v rest hn hs
  next => exact tokenAt_quoteValue cls pr v rest

theorem valueTok_kind_ne_error (pr : Char → Bool) (v : List Char) : (valueTok pr v).kind ≠ .error := by
  unfold valueTok; split
  · split <;> simp
  · simp

theorem condString_eq (pr : Char → Bool) (c : Cond) :
    condString pr c = propText c ++ ' ' :: (c.op.text ++ ' ' :: (valueTok pr c.value).text) := by
  have : (valueTok pr c.value).text = if isNumber c.value then c.value else quoteValue pr c.value := by
    unfold valueTok; split <;> rfl
  simp only [condString, propText, this, List.append_assoc, List.cons_append, List.nil_append]
  rfl

theorem lexAll_condString {cls : Cls} (ok : ClsOK cls) (pr : Char → Bool) (c : Cond) (h : KeyOK cls c) (rest : List Char)
    (hs : Sep rest) : lexAll cls (condString pr c ++ rest) = condToks pr c ++ lexAll cls rest := by
  simp only [condString_eq, List.append_assoc, List.cons_append]
  rw [lexAll_tok ok (tokenAt_prop ok c h _ (.space _)) nofun, lexAll_space,
    lexAll_tok ok (tokenAt_cmp cls c.op _) nofun, lexAll_space,
    lexAll_tok ok (tokenAt_value ok pr c.value rest hs) (valueTok_kind_ne_error pr c.value)]
  rfl

mutual
  /-- every condition of the query has a lexable key; every combination has a child (`NonEmpty`; a `Simp` query has
  two, but `CondOK` says nothing of the characters of a key) -/
  def LexOK (cls : Cls) : Node → Prop
    | .cond c => KeyOK cls c
    | .comb _ cs => cs ≠ [] ∧ LexOKL cls cs
  def LexOKL (cls : Cls) : List Node → Prop
    | [] => True
    | n :: ns => LexOK cls n ∧ LexOKL cls ns
end

theorem sepTok_kind_ne_error (a : Bool) : (sepTok a).kind ≠ .error := by cases a <;> simp [sepTok]

mutual
  theorem lexAll_nodeString {cls : Cls} (ok : ClsOK cls) (pr : Char → Bool) :
      ∀ (n : Node), LexOK cls n → ∀ rest, Sep rest → lexAll cls (nodeString pr n ++ rest) = nodeToks pr n ++ lexAll cls rest
    | .cond c, h, rest, hs => by
      rw [LexOK] at h
      rw [nodeString, nodeToks, lexAll_condString ok pr c h rest hs]
    | .comb a cs, h, rest, hs => by
      rw [LexOK] at h
      simp only [nodeString, nodeToks, List.append_assoc, List.cons_append, List.nil_append]
      rw [lexAll_tok ok (tokenAt_lparen cls _) nofun, lexAll_joinSep ok pr a cs h.1 h.2 _ (.rparen rest),
        lexAll_tok ok (tokenAt_rparen cls rest) nofun]
  theorem lexAll_joinSep {cls : Cls} (ok : ClsOK cls) (pr : Char → Bool) (a : Bool) :
      ∀ (cs : List Node), cs ≠ [] → LexOKL cls cs → ∀ rest, Sep rest →
        lexAll cls (joinSep (if a then " AND ".toList else " OR ".toList) (nodesString pr cs) ++ rest) =
          joinToks pr a cs ++ lexAll cls rest
    | [], h, _, _, _ => absurd rfl h
    | [n], _, h, rest, hs => by
      rw [LexOKL] at h
      rw [nodesString, nodesString, joinSep, joinToks, lexAll_nodeString ok pr n h.1 rest hs]
    | n :: m :: r, _, h, rest, hs => by
      rw [LexOKL] at h
      -- the separator is the keyword's token between two spaces
      have hsep : ∀ l, (if a then " AND ".toList else " OR ".toList) ++ l = ' ' :: ((sepTok a).text ++ ' ' :: l) := by
        cases a <;> simp [sepTok]
      rw [nodesString, nodesString, joinSep, ← nodesString, List.append_assoc, List.append_assoc, hsep,
        lexAll_nodeString ok pr n h.1 _ (.space _), lexAll_space,
        lexAll_tok ok (tokenAt_sep ok a _) (sepTok_kind_ne_error a), lexAll_space,
        lexAll_joinSep ok pr a (m :: r) nofun h.2 rest hs, joinToks, List.append_assoc, List.cons_append]
end

end GoflowModel.ContactQL
