import GoflowModel.ContactQL.Ast
import GoflowModel.ContactQL.Lexer
import GoflowModel.Lemmas.LexText
/-! What `quoteValue` writes is one `STRING` token that denotes the value (C14); `eval` over `promote`, and the shape
`simplify` leaves (C15).  What `promote` leaves alone (`promote_keep`, `promote_all_keep`) is said with `sameOp`, in
`Lemmas/CQLParse`. -/
namespace GoflowModel.ContactQL
open GoflowModel.Quote GoflowModel.LexText

theorem quoteValue_concat (pr : Char → Bool) (w : List Char) (c : Char) :
    quoteValue pr (w ++ [c]) = '"' :: (escBody pr w ++ escRuneSafe pr c ++ ['"']) := by
  by_cases h : c = '\\'
  · subst h; simp [quoteValue, escRuneSafe]
  · simp [quoteValue, h, quote, escBody, escRuneSafe]

/-- what the lexer (`QEsc`, `endsBS`) and the visitor (`unqGo`) need of the text between the quotes -/
theorem quoteValue_body (pr : Char → Bool) (v : List Char) :
    ∃ b, quoteValue pr v = '"' :: (b ++ ['"']) ∧ QEsc false b = true ∧ endsBS false b = false ∧
      (pr '\n' = false → unqGo (b ++ ['"']) = .ok v) := by
  rcases v.eq_nil_or_concat with rfl | ⟨w, c, rfl⟩
  · exact ⟨[], rfl, rfl, rfl, fun _ => rfl⟩
  · rw [List.concat_eq_append]
    refine ⟨_, quoteValue_concat pr w c, ?_, ?_, fun hpr => ?_⟩
    · rw [QEsc_append, QEsc_escBody, QEsc_escRuneSafe]; rfl
    · rw [endsBS_append, endsBS_escRuneSafe]
    · rw [List.append_assoc, unqGo_escBody pr hpr, unqGo_escRuneSafe pr hpr, unqGo_close, ← foldr_cons_ok (w ++ [c]),
        List.foldr_append]
      rfl  -- both sides are `w.foldr UnqResult.cons (.ok [c])`

theorem tokenAt_string (cls : Cls) (r : List Char) :
    tokenAt cls ('"' :: r) = match lexText ('"' :: r) with
      | some (tok, rest) => some (⟨.string, tok⟩, rest)
      | none => some (⟨.error, ['"']⟩, r) := by
  rw [tokenAt, lexText]
  cases textEnd r false 0 none <;> rfl

theorem tokenAt_quoteValue (cls : Cls) (pr : Char → Bool) (v rest : List Char) :
    tokenAt cls (quoteValue pr v ++ rest) = some (⟨.string, quoteValue pr v⟩, rest) := by
  obtain ⟨b, e, hq, he, -⟩ := quoteValue_body pr v
  have := lexText_closing b rest hq (.inl he)
  simp only [e, List.cons_append, List.append_assoc, List.nil_append, tokenAt_string, this]

theorem literalValue_quoteValue (pr : Char → Bool) (hpr : pr '\n' = false) (v : List Char) :
    literalValue (quoteValue pr v) = some v := by
  obtain ⟨b, e, -, -, hu⟩ := quoteValue_body pr v
  simp only [e, literalValue, unquote, hu hpr]

theorem evalAll_eq_all (q : Cond → Bool) (cs : List Node) : evalAll q cs = cs.all (eval q) := by
  induction cs with
  | nil => rfl
  | cons n ns ih => simp [evalAll, ih]

theorem evalAny_eq_any (q : Cond → Bool) (cs : List Node) : evalAny q cs = cs.any (eval q) := by
  induction cs with
  | nil => rfl
  | cons n ns ih => simp [evalAny, ih]

theorem eval_comb (q : Cond → Bool) (a : Bool) (cs : List Node) :
    eval q (.comb a cs) = if a then cs.all (eval q) else cs.any (eval q) := by
  cases a <;> simp [eval, evalAll_eq_all, evalAny_eq_any]

theorem eval_promote (q : Cond → Bool) (a : Bool) (l : List Node) :
    eval q (.comb a (promote a l)) = eval q (.comb a l) := by
  simp only [eval_comb]
  induction l with
  | nil => rfl
  | cons x l ih =>
    cases x with
    | cond c => cases a <;> simp_all [promote]
    | comb b gs => cases a <;> cases b <;> simp_all [promote, eval_comb]

mutual
/-- shape of everything `simplify` returns: conditions, and combinations of at least two
well-shaped children (`NonEmpty`, the hypothesis of `C15.simplify_spec`, asks one; `Simp` of `Lemmas/CQLParse` asks
two, and more besides) -/
def wellShaped : Node → Bool
  | .cond _ => true
  | .comb _ cs => decide (2 ≤ cs.length) && wellShapedList cs
def wellShapedList : List Node → Bool
  | [] => true
  | n :: ns => wellShaped n && wellShapedList ns
end

theorem wellShapedList_append (a b : List Node) :
    wellShapedList (a ++ b) = (wellShapedList a && wellShapedList b) := by
  induction a with
  | nil => simp [wellShapedList]
  | cons x a ih => simp [wellShapedList, ih, Bool.and_assoc]

theorem wellShapedList_promote (a : Bool) (l : List Node) (h : wellShapedList l = true) :
    wellShapedList (promote a l) = true := by
  fun_induction promote a l with
  | case1 => rfl
  | case2 b gs r ih =>
    simp only [wellShapedList, wellShaped, Bool.and_eq_true] at h
    rw [wellShapedList_append, ih h.2]
    split <;> simp [wellShapedList, wellShaped, h.1]
  | case3 c r ih =>
    simp only [wellShapedList, Bool.and_eq_true] at h
    simp [wellShapedList, wellShaped, ih h.2]

theorem promote_ne_nil (a : Bool) (l : List Node) (hne : l ≠ []) (hs : wellShapedList l = true) :
    promote a l ≠ [] := by
  match l, hne with
  | .cond c :: l, _ => simp [promote]
  | .comb b gs :: l, _ =>
    -- a well-shaped combination has two children, so promoting them leaves something too
    simp only [wellShapedList, wellShaped, Bool.and_eq_true, decide_eq_true_eq] at hs
    obtain ⟨g, gs', rfl⟩ := List.exists_cons_of_length_pos (Nat.lt_of_lt_of_le Nat.zero_lt_two hs.1.1)
    rw [promote]
    split <;> simp

/-- what `simplify` makes of the children that are left of a combination: a single one stands for itself -/
def flat (a : Bool) : List Node → Node
  | [x] => x
  | l => .comb a l

theorem simplify_comb (a : Bool) (cs : List Node) (h : promote a (simplifyList cs) ≠ []) :
    simplify (.comb a cs) = some (flat a (promote a (simplifyList cs))) := by
  rw [simplify]
  match promote a (simplifyList cs), h with
  | [x], _ => rfl
  | x :: y :: r, _ => rfl

theorem eval_flat (q : Cond → Bool) (a : Bool) (l : List Node) : eval q (flat a l) = eval q (.comb a l) := by
  match l with
  | [x] => cases a <;> simp only [flat, eval, evalAll, evalAny, Bool.and_true, Bool.or_false]
  | [] | x :: y :: r => rfl

theorem wellShaped_flat (a : Bool) (l : List Node) (h : l ≠ []) : wellShaped (flat a l) = wellShapedList l := by
  match l, h with
  | [x], _ => simp only [flat, wellShapedList, Bool.and_true]
  | x :: y :: r, _ => rfl

end GoflowModel.ContactQL
