import GoflowModel.Lemmas.EngineCore
/-!
Termination of `continueUntilWait`: a measure that decreases on every iteration.  Visiting a node
uses up one of the `MaxStepsPerSprint` steps; finishing a run moves to a run created earlier; once
the step limit has failed a run only the unwinding through its ancestors is left.
-/
namespace GoflowModel.Engine

variable {a : Assets} {o : Opts} {orc : Oracle} {l : Loop} {s : Session} {st st' : St} {r cur : Nat} {node : Node}
  {step : StepRef} {e : Option (Option Nat)} {res : Sum Loop Result}

/-- how far the run stack can still unwind: one more than the run that is current once `pickDest` is done -/
def Bm (l : Loop) : Nat :=
  if l.st.s.pushed.isSome then l.st.s.runs.length + 1
  else match l.cur with
    | none => 0
    | some c => c + 1

theorem Bm_cur {c : Nat} (hp : l.st.s.pushed = none) (hc : l.cur = some c) : Bm l = c + 1 := by
  simp [Bm, hp, hc]

/-- visits still allowed, then the unwinding, lexicographically: `Bm` stays below `R0 + maxBudget o + 3` (`Bm_lt`) -/
def mu (o : Opts) (R0 : Nat) (l : Loop) : Nat := ((maxBudget o : Int) + 1 - l.n).toNat * (R0 + maxBudget o + 3) + Bm l

def HasFailure (sp : List SprintEv) : Prop := ∃ se ∈ sp, se.ev.kind = failureKind

theorem failRun_failure (st : St) (r : Nat) (step : Option StepRef) : HasFailure (failRun st r step).sp :=
  ⟨⟨some r, ⟨failureKind, false, step⟩⟩, by simp [failRun, logEvent], rfl⟩

/-- the step limit has failed the current run: there is nothing left to go to -/
def Over (l : Loop) : Prop :=
  l.exit = none ∧ l.st.s.pushed = none ∧ (∃ c, l.cur = some c ∧ runStatus l.st.s c = some .failed) ∧ HasFailure l.st.sp

/-- the termination invariant at the head of the loop; `R0` is the number of runs the call found -/
structure LTerm (o : Opts) (R0 : Nat) (l : Loop) : Prop where
  nonneg : 0 ≤ l.n
  /-- past the limit no visit is tried, so the count stops -/
  le : l.n ≤ maxBudget o + 1
  ov : (maxBudget o : Int) < l.n → Over l
  /-- every run beyond the first `R0` was pushed by the trigger of a start (the `+ 1`) or by a counted visit -/
  rl : (l.st.s.runs.length + (if l.st.s.pushed.isSome then 1 else 0) : Int) ≤ R0 + l.n + 1

theorem LTerm.failed {R0 : Nat} (ht : LTerm o R0 l) (hcur : l.cur = some cur)
    (h : (maxBudget o : Int) < l.n) : runStatus l.st.s cur = some .failed := by
  obtain ⟨c, hc, hf⟩ := (ht.ov h).2.2.1
  rw [hcur] at hc; cases hc; exact hf

theorem LTerm_init (o : Opts) (l : Loop) (hn : l.n = 0) : LTerm o l.st.s.runs.length l :=
  ⟨by omega, by omega, fun h => by omega, by split <;> omega⟩

theorem Bm_lt {R0 : Nat} (hc : Core l) (ht : LTerm o R0 l) : Bm l < R0 + maxBudget o + 3 := by
  have hrl := ht.rl
  have hle := ht.le
  unfold Bm
  split
  next hps =>
    simp only [hps, if_true] at hrl
    omega
  next hps =>
    simp only [hps] at hrl
    split
    next => omega
    next c hcc =>
      have hlt := hc.curValid c hcc
      omega

/-- an iteration counts a visit that the limit still allowed or refused for the first time, or moves to an earlier run -/
def Dec (o : Opts) (l l' : Loop) : Prop := l'.n = l.n + 1 ∧ l.n ≤ maxBudget o ∨ l'.n = l.n ∧ Bm l' < Bm l

theorem mu_lt {R0 : Nat} {l l' : Loop} (h : Dec o l l') (hb : Bm l' < R0 + maxBudget o + 3) :
    mu o R0 l' < mu o R0 l := by
  unfold mu
  rcases h with ⟨h1, h2⟩ | ⟨h1, h2⟩
  · have h3 : ((maxBudget o : Int) + 1 - l.n).toNat = ((maxBudget o : Int) + 1 - l'.n).toNat + 1 := by omega
    rw [h3, Nat.succ_mul]
    exact Nat.lt_of_lt_of_le (Nat.add_lt_add_left hb _) (Nat.le_add_right _ _)
  · rw [h1]; exact Nat.add_lt_add_left h2 _

theorem mu_lt_fuel (hc : Core l) (ht : LTerm o l.st.s.runs.length l) :
    mu o l.st.s.runs.length l < fuelFor o l.st.s := by
  have hb := Bm_lt hc ht
  have hn := ht.nonneg
  calc mu o l.st.s.runs.length l
      < (((maxBudget o : Int) + 1 - l.n).toNat + 1) * (l.st.s.runs.length + maxBudget o + 3) := by
        unfold mu; rw [Nat.succ_mul]; exact Nat.add_lt_add_left hb _
    _ ≤ (maxBudget o + 2) * (2 * (l.st.s.runs.length + maxBudget o + 2) + 4) := Nat.mul_le_mul (by omega) (by omega)

theorem DestOut.term {R0 : Nat} {x : Loop × Option Nat} (h : DestOut a l x)
    (ht : LTerm o R0 l) :
    LTerm o R0 x.1 ∧ (∀ c, x.1.cur = some c → Bm l = c + 1) ∧ ((maxBudget o : Int) < l.n → x.2 = none) := by
  cases h with
  | push p hp s0 hs0 dest =>
    have hlen : s0.runs.length = l.st.s.runs.length := length_of_parents_eq (hs0 ▸ parents_ite_exitAll _ _)
    have hno : ¬ (maxBudget o : Int) < l.n := fun h => by have := (ht.ov h).2.1; rw [hp] at this; cases this
    refine ⟨⟨ht.nonneg, ht.le, fun h => absurd h hno, ?_⟩, fun c hc => by cases hc; simp [Bm, hp, hlen],
      fun h => absurd h hno⟩
    simpa [pushRun, hp, hlen] using ht.rl
  | follow hp d hd =>
    have hno : ¬ (maxBudget o : Int) < l.n := fun h => by have := (ht.ov h).1; rw [hd] at this; cases this
    exact ⟨⟨ht.nonneg, ht.le, fun h => absurd h hno, ht.rl⟩, fun _ => Bm_cur hp, fun h => absurd h hno⟩
  | idle hp => exact ⟨ht, fun _ => Bm_cur hp, fun _ => rfl⟩

theorem LTerm.finish {R0 : Nat} (ht : LTerm o R0 l) (hc : Core l) (hp : l.st.s.pushed = none)
    (hcur : l.cur = some cur) (hf : Done l (finished l cur) cur) : LTerm o R0 (finished l cur) := by
  by_cases hov : (maxBudget o : Int) < l.n
  · rwa [finished_of_failed hc.ok (ht.failed hcur hov)]
  · have := ht.rl
    rw [hp] at this
    exact ⟨ht.nonneg, ht.le, fun h => absurd h hov, by rw [length_of_parents_eq hf.parents, hf.pushed]; exact this⟩

def EndsFailed (st : St) : Prop := st.s.status = .failed ∧ HasFailure st.sp

theorem NoDestOut.term {R0 : Nat}
    (h : NoDestOut a l cur res) (hc : Core l) (ht : LTerm o R0 l) (hcur : l.cur = some cur) (hex : l.exit = none)
    (hp : l.st.s.pushed = none) :
    IterPost (fun l' => LTerm o R0 l' ∧ l'.n = l.n ∧ Bm l' ≤ cur)
      (fun r => r ≠ .outOfFuel ∧ ((maxBudget o : Int) < l.n → OnOk EndsFailed r)) res := by
  have hov := ht.failed hcur
  -- continue in the parent, an earlier run; past the limit it has to be failed in its turn
  have toP : ∀ {p : Nat}, (l.st.s.runs[cur]?).bind (·.parent) = some p → ∀ {l' : Loop}, l'.cur = some p → l'.n = l.n →
      Touch p l.st l'.st → l'.st.s.pushed = none → ((maxBudget o : Int) < l.n → Over l') →
      LTerm o R0 l' ∧ l'.n = l.n ∧ Bm l' ≤ cur :=
    fun hpar _ hcp hn t hpn hov' =>
      ⟨⟨hn ▸ ht.nonneg, hn ▸ ht.le, hn ▸ hov', by have := ht.rl; simp only [hp, hpn, t.length, hn] at this ⊢; exact this⟩,
        hn, Nat.le_trans (Nat.le_of_eq (Bm_cur hpn hcp)) (hc.pbc cur _ (parents_eq_some.2 hpar))⟩
  cases h with
  | ended => exact ⟨nofun, fun h => ⟨by simp [endStatus, hov h], (ht.ov h).2.2.2⟩⟩
  | childFailed hpar hact =>
    exact toP hpar rfl rfl (Touch_failRun _ _ _) hp fun _ =>
      ⟨hex, hp, ⟨_, rfl, by rw [runStatus_failRun, hact]; rfl⟩, failRun_failure _ _ _⟩
  | noFlow hpar _ hcf => exact toP hpar rfl rfl (Touch_failRun _ _ _) hp fun h => absurd (hov h) hcf
  | findErr hpar _ hf hcf =>
    exact toP hpar rfl rfl (hf.err_touch.1.trans (Touch_failRun _ _ _)) (hf.err_touch.2.1.trans hp) fun h => absurd (hov h) hcf
  | findOk hpar _ hf hcf => exact toP hpar rfl rfl hf.ok_touch.1 (hf.ok_touch.2.1.trans hp) fun h => absurd (hov h) hcf
  | tapeErr => exact ⟨nofun, fun _ => trivial⟩

theorem GoDestOut.term {R0 : Nat} {cur d : Nat}
    (h : GoDestOut a o l cur d res) (ht : LTerm o R0 l) (hcur : l.cur = some cur) (hex : l.exit = none)
    (hp : l.st.s.pushed = none) (hact : runStatus l.st.s cur = some .active) (hno : ¬ (maxBudget o : Int) < l.n) :
    IterPost (fun l' => LTerm o R0 l' ∧ l'.n = l.n + 1) (fun r => r ≠ .outOfFuel) res := by
  -- the visit is counted, and whatever it pushes is the one run more that the count allows
  have count : ∀ {l' : Loop}, l'.n = l.n + 1 → l'.st.s.runs.length = l.st.s.runs.length →
      ((maxBudget o : Int) < l'.n → Over l') → LTerm o R0 l' ∧ l'.n = l.n + 1 :=
    fun {l'} hn' hlen hov => by
      have := ht.nonneg
      have hrl := ht.rl
      simp only [hp, Option.isSome_none] at hrl
      refine ⟨⟨by omega, by omega, hov, ?_⟩, hn'⟩
      rw [hlen, hn']
      split <;> omega
  cases h with
  | limit =>
    exact count rfl (Touch_failRun _ _ _).length fun _ =>
      ⟨hex, hp, ⟨cur, hcur, by rw [runStatus_failRun, hact]; rfl⟩, failRun_failure _ _ _⟩
  | next hle _ _ hv =>
    exact count rfl (length_of_parents_eq hv.stat.parents) fun h => absurd (show (maxBudget o : Int) < l.n + 1 from h) (by unfold maxBudget; omega)
  | _ => nofun

theorem iter_term (a : Assets) (o : Opts) (orc : Oracle) (R0 : Nat) (l : Loop) (hc : Core l) (ht : LTerm o R0 l) :
    IterPost (fun l' => LTerm o R0 l' ∧ Dec o l l')
      (fun r => r ≠ .outOfFuel ∧ ((maxBudget o : Int) < l.n → OnOk EndsFailed r)) (iter a o orc l) :=
  iter_cases hc ⟨nofun, fun _ => trivial⟩
    (fun hd h1 _ hp hcur hf h => by
      obtain ⟨t1, hb, _⟩ := hd.term ht
      exact (h.term hf.core (t1.finish h1 hp hcur hf) hcur hf.exit hf.pushed).imp
        (fun l' ⟨t, hn', hb'⟩ => ⟨t, .inr ⟨hn'.trans hd.n, hb _ hcur ▸ Nat.lt_succ_of_le hb'⟩⟩)
        fun r ⟨h, hf⟩ => ⟨h, fun hov => hf (hd.n ▸ hov)⟩)
    (fun hd _ hex hp hcur hact h => by
      obtain ⟨t1, _, hov⟩ := hd.term ht
      have hno : ¬ (maxBudget o : Int) < l.n := fun h => by cases hov h
      exact (h.term t1 hcur hex hp hact (hd.n ▸ hno)).imp
        (fun l' ⟨t, hn'⟩ => ⟨t, .inl ⟨hn'.trans (by rw [hd.n]), by omega⟩⟩) fun r h => ⟨h, fun h' => absurd h' hno⟩)

theorem loop_terminates (a : Assets) (o : Opts) (orc : Oracle) (l : Loop) (hc : Core l)
    (ht : LTerm o l.st.s.runs.length l) : loop a o orc (fuelFor o l.st.s) l ≠ .outOfFuel :=
  loop_core_fuel (I := fun fuel l' => LTerm o l.st.s.runs.length l' ∧ mu o l.st.s.runs.length l' < fuel)
    (fun _ l' hc' ⟨ht', hf⟩ => (iter_term a o orc _ l' hc' ht').imp
      (fun _ ⟨t, d⟩ hc'' => ⟨t, by have := mu_lt d (Bm_lt hc'' t); omega⟩) fun _ h => h.1)
    (fun _ h => absurd h.2 (Nat.not_lt_zero _)) _ l hc ⟨ht, mu_lt_fuel hc ht⟩

theorem start_terminates (a : Assets) (o : Opts) (orc : Oracle) : start a o orc ≠ .outOfFuel := by
  rw [start_eq]
  split
  · nofun
  · exact loop_terminates a o orc (startLoop orc) (Core_start orc) (LTerm_init o _ rfl)

theorem resume_terminates (a : Assets) (o : Opts) (orc : Oracle) (s : Session) (k : ResumeKind)
    (hok : SessOK s) (hpush : s.pushed = none) (hpbc : PBC s) :
    resume a o orc s k ≠ .outOfFuel := by
  have hr := resume_out a o orc s k
  generalize resume a o orc s k = res at hr
  cases hr with
  -- `(.. :)`: against the goal, the unifier unfolds `loop` before it knows the loop state
  | loop hw _ hf => exact (loop_terminates a o orc _ (Core_resume hok hpush hpbc hw hf) (LTerm_init o _ rfl) :)
  | _ => nofun

/-- some iteration of the loop wants to go to a node but has used up its steps -/
def hitsLimit (a : Assets) (o : Opts) (orc : Oracle) : Nat → Loop → Bool
  | 0, _ => false
  | fuel + 1, l =>
    (match (pickDest a l).1.cur, (pickDest a l).2 with
     | some _, some _ => decide (o.maxSteps < l.n + 1)
     | _, _ => false) ||
    (match iter a o orc l with
     | .inl l' => hitsLimit a o orc fuel l'
     | .inr _ => false)

theorem iter_at_limit (a : Assets) (o : Opts) (orc : Oracle) (l : Loop) (cur d : Nat)
    (hc : (pickDest a l).1.cur = some cur) (hd : (pickDest a l).2 = some d) (hlim : o.maxSteps < l.n + 1) :
    ∃ l', iter a o orc l = .inl l' ∧ l'.n = l.n + 1 := by
  unfold iter
  simp only [hc, hd]
  unfold goDest
  simp only [(pickDest_out a l).n]
  rw [if_pos (by omega)]
  exact ⟨_, rfl, rfl⟩

theorem hitsLimit_step {R0 fuel : Nat} (ht : LTerm o R0 l)
    (hh : hitsLimit a o orc (fuel + 1) l = true) :
    ∃ l', iter a o orc l = .inl l' ∧ (hitsLimit a o orc fuel l' = true ∨ (maxBudget o : Int) < l'.n) := by
  simp only [hitsLimit, Bool.or_eq_true] at hh
  rcases hh with hnow | hlater
  · -- this iteration is the one that is refused its step
    split at hnow
    next cur d hc hd =>
      have hlim : o.maxSteps < l.n + 1 := by simpa using hnow
      obtain ⟨l', e, hn⟩ := iter_at_limit a o orc l cur d hc hd hlim
      exact ⟨l', e, .inr (by have := ht.nonneg; unfold maxBudget; omega)⟩
    next => cases hnow
  · -- a later one is
    split at hlater
    next l' heq => exact ⟨l', heq, .inl hlater⟩
    next => cases hlater

theorem loop_hitsLimit (a : Assets) (o : Opts) (orc : Oracle) (R0 : Nat) (fuel : Nat) (l : Loop)
    (hc : Core l) (ht : LTerm o R0 l) (hh : hitsLimit a o orc fuel l = true) (st : St)
    (h : loop a o orc fuel l = .ok st) : EndsFailed st := by
  have := loop_core_fuel (Q := OnOk EndsFailed)
    (I := fun fuel l => LTerm o R0 l ∧ (hitsLimit a o orc fuel l = true ∨ (maxBudget o : Int) < l.n))
    (fun fuel l hc ⟨ht, hh⟩ => by
      have h2 := iter_term a o orc R0 l hc ht
      rcases hh with hh | hov
      · obtain ⟨l', e, h⟩ := hitsLimit_step ht hh
        rw [e] at h2 ⊢
        exact fun _ => ⟨h2.1, h⟩
      · exact h2.imp (fun _ ⟨t, d⟩ _ => ⟨t, .inr (by rcases d with ⟨h, _⟩ | ⟨h, _⟩ <;> omega)⟩) fun _ h => h.2 hov)
    (fun _ _ => trivial) fuel l hc ⟨ht, .inl hh⟩
  rw [h] at this
  exact this

/-- the loop a `Resume` enters, with its fuel (`none`: the resume is rejected, or fails the session, before the loop) -/
def resumeLoop (a : Assets) (o : Opts) (orc : Oracle) (s : Session) (k : ResumeKind) : Option (Nat × Loop) :=
  if s.status ≠ .waiting then none
  else
    match waitingRun s with
    | none => none
    | some w =>
      if (getFlow a (((s.runs[w]?).map (·.flow)).getD 0)).isNone then none
      else if (countWaits s : Int) ≥ o.maxResumes then none
      else
        match pathLocation a s w with
        | none => none
        | some (step, node) =>
          match (if node.hasRouter then node.wait else none) with
          | none => none
          | some wk =>
            if !accepts wk k then none
            else
              match findResumeExit a orc (applyResume orc ⟨{ s with status := .active }, []⟩ w step k) w with
              | .ok st e => some (fuelFor o st.s, { st := st, cur := some w, exit := e, step := some step, n := 0 })
              | _ => none

theorem resumeLoop_out {k : ResumeKind} {fuel : Nat}
    (h : resumeLoop a o orc s k = some (fuel, l)) :
    resume a o orc s k = loop a o orc fuel l ∧ ∃ w step st' e, waitingRun s = some w ∧
      FindOut a (applied orc s k w step) w (.ok st' e) ∧ fuel = fuelFor o st'.s ∧
      l = { st := st', cur := some w, exit := e, step := some step, n := 0 } := by
  unfold resumeLoop at h
  split at h
  next => cases h
  next hstatus =>
  split at h
  next => cases h
  next w hw =>
  split at h
  next => cases h
  next hflow =>
  split at h
  next => cases h
  next hwaits =>
  split at h
  next => cases h
  next step node hloc =>
  split at h
  next => cases h
  next wk hwk =>
  split at h
  next => cases h
  next hacc =>
  split at h
  next st' e hfind =>
    cases h
    refine ⟨?_, w, step, st', e, hw, hfind ▸ findResumeExit_out a orc _ w, rfl, rfl⟩
    simp only [resume, hstatus, hw, hflow, hwaits, hloc, hwk, hacc, hfind, Bool.false_eq_true, if_false]
  next => cases h

end GoflowModel.Engine
