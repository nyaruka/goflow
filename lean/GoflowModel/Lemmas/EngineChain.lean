import GoflowModel.Lemmas.EngineCore
/-!
The live runs of a session form the chain from the current run up through its ancestors: `Chain` says so of a status
function `σ` and a parent list `P` only, `LChain` of a loop state.
-/
namespace GoflowModel.Engine

variable {a : Assets} {o : Opts} {orc : Oracle} {l : Loop} {s : Session} {st st' : St} {r cur : Nat} {node : Node}
  {step : StepRef} {e : Option (Option Nat)} {res : Sum Loop Result} {P : List (Option Nat)}

/-- `j` is a proper ancestor of `i` along the parent links -/
inductive Anc (P : List (Option Nat)) : Nat → Nat → Prop where
  | parent {i p} : P[i]? = some (some p) → Anc P i p
  | step {i p j} : P[i]? = some (some p) → Anc P p j → Anc P i j

/-- parent before child, on a bare parent list: `PBC s` unfolds to `PBCl (parents s)` -/
def PBCl (P : List (Option Nat)) : Prop := ∀ (i p : Nat), P[i]? = some (some p) → p < i

theorem Anc.lt (hp : PBCl P) {i j : Nat} (h : Anc P i j) : j < i := by
  induction h with
  | parent hpar => exact hp _ _ hpar
  | step hpar _ ih => have := hp _ _ hpar; omega

theorem Anc.cases_parent {i p j : Nat} (hpar : P[i]? = some (some p)) (h : Anc P i j) :
    j = p ∨ Anc P p j := by
  cases h with
  | parent h' => rw [hpar] at h'; cases h'; exact Or.inl rfl
  | step h' hrest => rw [hpar] at h'; cases h'; exact Or.inr hrest

theorem Anc.no_parent {i j : Nat} (hpar : ∀ p, P[i]? ≠ some (some p)) (h : Anc P i j) : False := by
  cases h with
  | parent h' => exact hpar _ h'
  | step h' _ => exact hpar _ h'

theorem Anc.append_old (x : Option Nat) {i j : Nat} (hi : i < P.length)
    (hp : PBCl P) : Anc (P ++ [x]) i j ↔ Anc P i j := by
  constructor <;> intro h
  · induction h with
    | parent hpar => exact .parent (List.getElem?_append_left hi ▸ hpar)
    | step hpar _ ih =>
      rw [List.getElem?_append_left hi] at hpar
      exact .step hpar (ih (Nat.lt_trans (hp _ _ hpar) hi))
  · induction h with
    | parent hpar => exact .parent (List.getElem?_append_left hi ▸ hpar)
    | step hpar _ ih => exact .step (List.getElem?_append_left hi ▸ hpar) (ih (Nat.lt_trans (hp _ _ hpar) hi))

theorem Anc.trans_parent {i m p : Nat} (hm : Anc P i m) (hmp : P[m]? = some (some p)) : Anc P i p := by
  induction hm with
  | parent h1 => exact .step h1 (.parent hmp)
  | step h1 _ ih => exact .step h1 (ih hmp)

abbrev Stat := Nat → Option RunStatus

variable {σ σ' : Stat}

/-- The chain invariant at the head of the loop, with current run `x` (`none` before the first run):
nobody else waits, every active run is the current one or an ancestor of it, and along the ancestors
an active parent has an active child.  Nothing is said of the current run's own status, so the
invariant also describes a session handed back waiting in `x`. -/
structure Chain (σ : Stat) (P : List (Option Nat)) (x : Option Nat) : Prop where
  others : ∀ i, x ≠ some i → σ i ≠ some .waiting
  active : ∀ i, σ i = some .active → ∃ c, x = some c ∧ (i = c ∨ Anc P c i)
  closed : ∀ c m p, x = some c → Anc P c m → P[m]? = some (some p) → σ p = some .active → σ m = some .active

theorem Chain.on {i : Nat} (h : Chain σ P (some cur)) (hi : σ i = some .active) :
    i = cur ∨ Anc P cur i := by
  obtain ⟨_, ⟨rfl⟩, h⟩ := h.active i hi
  exact h

theorem Chain.of_inactive (x : Option Nat)
    (h : ∀ i, σ i ≠ some .active ∧ σ i ≠ some .waiting) : Chain σ P x :=
  ⟨fun i _ => (h i).2, fun i hi => absurd hi (h i).1, fun _ _ p _ _ _ hp => absurd hp (h p).1⟩

theorem Chain.change_cur (h : Chain σ P (some cur)) (hp : PBCl P)
    (hother : ∀ i, i ≠ cur → σ' i = σ i) : Chain σ' P (some cur) := by
  refine ⟨fun i hi => ?_, fun i hi => ?_, ?_⟩
  · have hic : i ≠ cur := fun e => hi (e ▸ rfl)
    exact hother i hic ▸ h.others i hi
  · by_cases hic : i = cur
    · exact ⟨cur, rfl, .inl hic⟩
    · exact h.active i (hother i hic ▸ hi)
  · rintro _ m p ⟨rfl⟩ hm hpar hpa
    have hmlt := hm.lt hp
    have hplt := hp _ _ hpar
    rw [hother p (by omega)] at hpa
    rw [hother m (by omega)]
    exact h.closed _ m p rfl hm hpar hpa

/-- `Chain` with current run `cur` when `cur` does not wait either: then nobody waits (`Chain.ch`) -/
structure CH (σ : Stat) (P : List (Option Nat)) (cur : Nat) : Prop where
  noWaiting : ∀ i, σ i ≠ some .waiting
  activeOnChain : ∀ i, σ i = some .active → i = cur ∨ Anc P cur i
  closed : ∀ m p, Anc P cur m → P[m]? = some (some p) → σ p = some .active → σ m = some .active

theorem CH.stat_congr {σ σ' : Stat} {P : List (Option Nat)} {c : Nat} (h : CH σ P c) (he : ∀ i, σ' i = σ i) : CH σ' P c := by
  have : σ' = σ := funext he
  rw [this]; exact h

theorem Chain.ch (h : Chain σ P (some cur)) (hnw : σ cur ≠ some .waiting) : CH σ P cur :=
  ⟨fun i hw => (Classical.em (i = cur)).elim (fun e => hnw (e ▸ hw)) fun ne => h.others i (fun e => ne (Option.some.inj e).symm) hw,
   fun _ => h.on, fun m p => h.closed cur m p rfl⟩

theorem CH.to_parent {p : Nat} (h : CH σ P cur) (hpar : P[cur]? = some (some p)) (hna : σ cur ≠ some .active) :
    Chain σ P (some p) := by
  refine ⟨fun i _ => h.noWaiting i, fun i hi => ⟨p, rfl, ?_⟩, ?_⟩
  · rcases h.activeOnChain i hi with rfl | ha
    · exact absurd hi hna
    · exact ha.cases_parent hpar
  · rintro _ m q ⟨rfl⟩ hm hq hqa
    exact h.closed m q (.step hpar hm) hq hqa

/-- `hlink`: the chain stays closed at the new link; where a run is pushed, `x` is active or nobody is -/
theorem Chain.push {x : Option Nat} (h : Chain σ P x) (hp : PBCl P)
    (hx : ∀ c, x = some c → c < P.length ∧ σ c ≠ some .waiting)
    (hlink : ∀ c p, x = some c → P[c]? = some (some p) → σ p = some .active → σ c = some .active)
    (hσ : ∀ i, σ' i = if i < P.length then σ i else if i = P.length then some .active else none) :
    Chain σ' (P ++ [x]) (some P.length) := by
  have hold : ∀ i, i < P.length → σ' i = σ i := fun i hi => by rw [hσ, if_pos hi]
  have hout : ∀ i, P.length < i → σ' i = none := fun i hi => by rw [hσ, if_neg (by omega), if_neg (by omega)]
  have hparN : (P ++ [x])[P.length]? = some x := by simp
  have anc : ∀ {m}, Anc (P ++ [x]) P.length m ↔ ∃ c, x = some c ∧ (m = c ∨ Anc P c m) := fun {m} => by
    constructor
    · intro hm
      cases x with
      | none => exact (hm.no_parent (by simp)).elim
      | some c => exact ⟨c, rfl, (hm.cases_parent hparN).imp_right (Anc.append_old _ (hx c rfl).1 hp).1⟩
    · rintro ⟨c, rfl, rfl | ha⟩
      · exact .parent hparN
      · exact .step hparN ((Anc.append_old _ (hx c rfl).1 hp).2 ha)
  refine ⟨fun i hi => ?_, fun i hi => ⟨_, rfl, ?_⟩, ?_⟩
  · rcases Nat.lt_trichotomy i P.length with hlt | rfl | hgt
    · rw [hold i hlt]
      by_cases hix : x = some i
      · exact (hx i hix).2
      · exact h.others i hix
    · exact absurd rfl hi
    · rw [hout i hgt]; simp
  · rcases Nat.lt_trichotomy i P.length with hlt | heq | hgt
    · exact .inr (anc.2 (h.active i (hold i hlt ▸ hi)))
    · exact .inl heq
    · rw [hout i hgt] at hi; cases hi
  · rintro _ m p ⟨rfl⟩ hm hpar hpa
    obtain ⟨c, rfl, hm'⟩ := anc.1 hm
    have hclt := (hx c rfl).1
    have hmlt : m < P.length := by
      rcases hm' with rfl | ha
      · exact hclt
      · have := ha.lt hp; omega
    rw [List.getElem?_append_left hmlt] at hpar
    have hplt := hp _ _ hpar
    rw [hold p (by omega)] at hpa
    rw [hold m hmlt]
    rcases hm' with rfl | ha
    · exact hlink _ p rfl hpar hpa
    · exact h.closed _ m p rfl ha hpar hpa

theorem CH.none_active (h : CH σ P cur)
    (hna : σ cur ≠ some .active) (hpar : ∀ p, P[cur]? = some (some p) → σ p ≠ some .active) :
    ∀ i, σ i ≠ some .active := by
  -- below an active ancestor every run of the chain is active, down to the parent of the lowest
  have key : ∀ {m j}, (m = cur ∨ Anc P cur m) → Anc P m j → σ j = some .active →
      ∃ p, P[m]? = some (some p) ∧ σ p = some .active := by
    intro m j hm hj hja
    induction hj with
    | parent hmp => exact ⟨_, hmp, hja⟩
    | @step m p j hmp _ ih =>
      have hp : Anc P cur p := hm.elim (fun e => e ▸ .parent hmp) (·.trans_parent hmp)
      obtain ⟨q, hpq, hqa⟩ := ih (.inr hp) hja
      exact ⟨p, hmp, h.closed p q hp hpq hqa⟩
  intro i hi
  rcases h.activeOnChain i hi with rfl | ha
  · exact hna hi
  · obtain ⟨p, hp, hpa⟩ := key (.inl rfl) ha hi
    exact hpar p hp hpa

/-- what clause (ii) says of a session handed back: when it waits, one run waits and the active
runs are exactly (some of) its ancestors, closed towards it; otherwise no run is active or waiting -/
structure FinalChain (s : Session) : Prop where
  waiting : s.status = .waiting → ∃ w, runStatus s w = some .waiting ∧ (∀ i, i ≠ w → runStatus s i ≠ some .waiting) ∧
      (∀ i, runStatus s i = some .active → Anc (parents s) w i) ∧
      (∀ m p, Anc (parents s) w m → (parents s)[m]? = some (some p) → runStatus s p = some .active → runStatus s m = some .active)
  done : s.status ≠ .waiting → ∀ i, runStatus s i ≠ some .active ∧ runStatus s i ≠ some .waiting

/-- the chain invariant at the head of the loop -/
structure LChain (l : Loop) : Prop where
  chain : Chain (runStatus l.st.s) (parents l.st.s) l.cur
  pushedActive : l.st.s.pushed.isSome → ∀ c, l.cur = some c → runStatus l.st.s c = some .active

def ResChain : Result → Prop := OnOk fun st => FinalChain st.s

theorem DestOut.chain {x : Loop × Option Nat} (h : DestOut a l x) (hc : Core l) (hl : LChain l) :
    LChain x.1 := by
  cases h with
  | follow => exact ⟨hl.chain, hl.pushedActive⟩
  | idle => exact hl
  | push p hp s0 hs0 dest =>
    refine ⟨?_, by simp [pushRun]⟩
    have hpar : parents s0 = parents l.st.s := hs0 ▸ parents_ite_exitAll _ _
    have hlen : s0.runs.length = (parents l.st.s).length := by rw [← hpar, parents_length]
    -- before the push: after a terminal flow nobody is active; otherwise the current run is
    have h0 : Chain (runStatus s0) (parents l.st.s) l.cur ∧ ∀ c, l.cur = some c → runStatus s0 c ≠ some .waiting ∧
        ∀ q, runStatus s0 q = some .active → runStatus s0 c = some .active := by
      subst hs0; split
      · have off : ∀ i, runStatus (exitAll l.st.s) i ≠ some .active ∧ runStatus (exitAll l.st.s) i ≠ some .waiting := fun i => by
          rw [runStatus_exitAll]; cases runStatus l.st.s i <;> simp
        exact ⟨.of_inactive _ off, fun c _ => ⟨(off c).2, fun q hq => absurd hq (off q).1⟩⟩
      · refine ⟨hl.chain, fun c hcur => ?_⟩
        have hact : runStatus l.st.s c = some .active := hl.pushedActive (by simp [hp]) c hcur
        exact ⟨by simp [hact], fun _ _ => hact⟩
    show Chain (runStatus (pushRun s0 p.flow l.cur)) (parents (pushRun s0 p.flow l.cur)) (some s0.runs.length)
    rw [parents_pushRun, hpar, hlen]
    exact h0.1.push hc.pbc (fun c hcur => ⟨parents_length _ ▸ hc.curValid c hcur, (h0.2 c hcur).1⟩)
      (fun c q hcur _ => (h0.2 c hcur).2 q) fun i => hlen ▸ runStatus_pushRun s0 p.flow l.cur i

theorem LChain.of_touch {c : Nat} (hpbc : PBC s) (hch : Chain (runStatus s) (parents s) (some c)) {st' : St}
    (hpar : parents st'.s = parents s) (hfr : Fr c s st'.s)
    (hp : st'.s.pushed.isSome → runStatus st'.s c = some .active)
    {cur : Option Nat} (hcur : cur = some c) {stp : Option StepRef} {n : Int} :
    LChain { st := st', cur := cur, exit := e, step := stp, n := n } := by
  subst hcur
  exact ⟨hpar ▸ hch.change_cur hpbc hfr, fun h c' hc' => by cases hc'; exact hp h⟩

theorem FinalChain.of_done (x : SessStatus) (hx : x ≠ .waiting)
    (h : ∀ i, runStatus s i ≠ some .active ∧ runStatus s i ≠ some .waiting) : FinalChain { s with status := x } :=
  ⟨fun hw => absurd hw hx, fun _ => h⟩

theorem Chain.final {w : Nat} (h : Chain (runStatus s) (parents s) (some w)) (hw : runStatus s w = some .waiting)
    (hs : s.status = .waiting) : FinalChain s :=
  ⟨fun _ => ⟨w, hw, fun i hi => h.others i fun e => hi (Option.some.inj e).symm,
    fun i hia => (h.on hia).resolve_left (by rintro rfl; rw [hw] at hia; cases hia), fun m p => h.closed w m p rfl⟩,
   fun hnw => absurd hs hnw⟩

theorem FinalChain.chain {w : Nat} (h : FinalChain s) (hw : waitingRun s = some w) : Chain (runStatus s) (parents s) (some w) := by
  have hw := waitingRun_spec hw
  obtain ⟨w', _, hw2, hw3, hw4⟩ := h.waiting (Classical.byContradiction fun hs => (h.done hs w).2 hw)
  obtain rfl : w = w' := Classical.byContradiction fun hne => hw2 w hne hw
  exact ⟨fun i hi => hw2 i fun e => hi (e ▸ rfl), fun i hia => ⟨w, rfl, .inr (hw3 i hia)⟩, by rintro _ m p ⟨rfl⟩; exact hw4 m p⟩

theorem NoDestOut.chain (h : NoDestOut a l cur res)
    (hc : Core l) (hch : CH (runStatus l.st.s) (parents l.st.s) cur) (hp : l.st.s.pushed = none)
    (hna : runStatus l.st.s cur ≠ some .active) : IterPost LChain ResChain res := by
  -- continue in the parent: whatever happens next only touches the parent's status
  have toP : ∀ {p : Nat}, (l.st.s.runs[cur]?).bind (·.parent) = some p → ∀ {st' : St}, Touch p l.st st' →
      st'.s.pushed = none → ∀ {e : Option (Option Nat)} {stp : Option StepRef},
      LChain { st := st', cur := some p, exit := e, step := stp, n := l.n } := fun hpar _ t hpn _ _ =>
    LChain.of_touch hc.pbc (hch.to_parent (parents_eq_some.2 hpar) hna) t.parents t.fr (by simp [hpn]) rfl
  have done : ∀ x, x ≠ SessStatus.waiting →
      (∀ p, (l.st.s.runs[cur]?).bind (·.parent) = some p → runStatus l.st.s p ≠ some .active) →
      FinalChain { l.st.s with status := x } := fun x hx h =>
    .of_done x hx fun i => ⟨hch.none_active hna (fun q hq => h q (parents_eq_some.1 hq)) i, hch.noWaiting i⟩
  cases h with
  | ended h => exact done _ (by rcases endStatus_cases l.st.s cur with h | h <;> simp [h]) h
  | childFailed hpar => exact toP hpar (Touch_failRun _ _ _) hp
  | noFlow hpar => exact toP hpar (Touch_failRun _ _ _) hp
  | findErr hpar _ h =>
    obtain ⟨t, hp', _⟩ := h.err_touch
    exact toP hpar (t.trans (Touch_failRun _ _ _)) (hp'.trans hp)
  | findOk hpar hact h =>
    obtain ⟨t, hp', _⟩ := h.ok_touch
    exact toP hpar t (hp'.trans hp)
  | tapeErr => trivial

theorem GoDestOut.chain {cur d : Nat}
    (h : GoDestOut a o l cur d res) (hc : Core l) (hch : Chain (runStatus l.st.s) (parents l.st.s) (some cur))
    (hcur : l.cur = some cur) (hp : l.st.s.pushed = none) (hact : runStatus l.st.s cur = some .active) :
    IterPost LChain ResChain res := by
  cases h with
  | limit =>
    exact LChain.of_touch hc.pbc hch (Touch_failRun _ _ _).parents (Touch_failRun _ _ _).fr
      (fun h => by rw [show (failRun l.st cur l.step).s.pushed = l.st.s.pushed from rfl, hp] at h; cases h) hcur
  | noNode => trivial
  | visitErr => trivial
  | tapeErr => trivial
  | waits _ _ _ hv hw =>
    have v := hv.stat
    rcases v.stat with ⟨hs, _⟩ | ⟨_, _, _, hr⟩
    · exact absurd (hs ▸ hw) hc.notWaiting
    · exact (v.parents ▸ hch.change_cur hc.pbc v.fr).final (by rw [hr, hact]; rfl) hw
  | next _ _ _ hv hw =>
    have v := hv.stat
    rcases v.stat with ⟨_, hr⟩ | ⟨h, _⟩
    · refine LChain.of_touch hc.pbc hch v.parents v.fr (fun hps => ?_) hcur
      rcases hr with h | ⟨h, _⟩
      · exact h.trans hact
      · rw [h] at hps; cases hps
    · exact absurd h hw

theorem iter_chain (a : Assets) (o : Opts) (orc : Oracle) (l : Loop) (hc : Core l) (hl : LChain l) :
    IterPost LChain ResChain (iter a o orc l) :=
  iter_cases hc trivial
    (fun {l1 cur _} hd h1 _ _ hcur hf h => by
      -- finishing the current run changes its status only
      have hch : Chain (runStatus (finished l1 cur).st.s) (parents (finished l1 cur).st.s) (some cur) :=
        hf.parents.symm ▸ (hcur ▸ (hd.chain hc hl).chain).change_cur h1.pbc hf.fr
      exact h.chain hf.core (hch.ch hf.notWaiting) hf.pushed hf.notActive)
    (fun hd h1 _ hp hcur hact h => h.chain h1 (hcur ▸ (hd.chain hc hl).chain) hcur hp hact)

theorem start_chain (a : Assets) (o : Opts) (orc : Oracle) : ResChain (start a o orc) := by
  rw [start_eq]
  split
  · trivial
  · exact loop_core (iter_chain a o orc) trivial _ _ (Core_start orc)
      ⟨.of_inactive _ fun i => by simp [runStatus, startLoop, emptySession], fun _ _ h => by cases h⟩

theorem failSession_final (st : St) (w : Nat) : FinalChain (failSession st w).s :=
  ⟨fun h => by simp [failSession] at h, fun _ => failSession_off st w⟩

theorem resume_chain (a : Assets) (o : Opts) (orc : Oracle) (s : Session) (k : ResumeKind)
    (hok : SessOK s) (hpush : s.pushed = none) (hpbc : PBC s) (hfin : FinalChain s) :
    ResChain (resume a o orc s k) := by
  have hr := resume_out a o orc s k
  generalize resume a o orc s k = res at hr
  cases hr with
  | rejected => trivial
  | tapeErr => trivial
  | unrecoverable => exact failSession_final _ _
  | findErr => exact failSession_final _ _
  | @loop w step _ hw _ st' e hf =>
    obtain ⟨t, hpa⟩ := applied_touch orc s k w step
    obtain ⟨t', hp', _⟩ := hf.ok_touch
    refine loop_core (iter_chain a o orc) trivial _ _ (Core_resume hok hpush hpbc hw hf)
      ⟨?_, fun h => by rw [hp', hpa, hpush] at h; cases h⟩
    show Chain (runStatus st'.s) (parents st'.s) (some w)
    exact (t'.parents.trans t.parents) ▸ (hfin.chain hw).change_cur hpbc (t.fr.trans t'.fr)

end GoflowModel.Engine
