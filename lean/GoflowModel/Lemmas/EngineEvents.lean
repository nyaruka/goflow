import GoflowModel.Lemmas.EngineCore
/-!
Events: every event a run holds names (when it names one) a step of that run, and what a run
records during a call is a subsequence of that call's sprint events.
-/
namespace GoflowModel.Engine

def EvSteps (s : Session) : Prop :=
  ∀ (r : Nat) (x : Run), s.runs[r]? = some x → ∀ e ∈ x.events, ∀ sr, e.step = some sr →
    sr.run = r ∧ sr.idx < x.path.length

/-- `b r`: the events run `r` started the call with (none where there is no run) -/
def SubInv (b : Nat → List Ev) (st : St) : Prop :=
  (∀ r, st.s.runs[r]? = none → b r = []) ∧
  ∀ (r : Nat) (x : Run), st.s.runs[r]? = some x → ∃ n, x.events = b r ++ n ∧ List.Sublist n (st.sp.map (·.ev))

def EI (b : Nat → List Ev) (st : St) : Prop := EvSteps st.s ∧ SubInv b st

def StepOf (s : Session) (r : Nat) (step : Option StepRef) : Prop :=
  ∀ sr, step = some sr → sr.run = r ∧ ∀ x, s.runs[r]? = some x → sr.idx < x.path.length

def pls (s : Session) : List Nat := s.runs.map (·.path.length)

theorem StepOf_none {s : Session} {r : Nat} : StepOf s r none := fun _ h => by cases h

theorem StepOf_pathLocation {a : Assets} {s : Session} {r : Nat} {step : StepRef} {node : Node}
    (h : pathLocation a s r = some (step, node)) : StepOf s r (some step) := by
  obtain ⟨x, t, hx, ht, -, rfl⟩ := pathLocation_eq_some_iff.1 h
  rintro _ ⟨rfl⟩
  refine ⟨rfl, fun y hy => ?_⟩
  obtain rfl : x = y := Option.some.inj (hx.symm.trans hy)
  exact Nat.sub_lt (List.length_pos_iff.2 fun h => by rw [h] at ht; cases ht) Nat.one_pos

theorem StepOf_pathLocation_map (a : Assets) (s : Session) (r : Nat) : StepOf s r ((pathLocation a s r).map Prod.fst) := by
  cases h : pathLocation a s r with
  | none => exact StepOf_none
  | some p => exact StepOf_pathLocation (step := p.1) (node := p.2) h

variable {a : Assets} {orc : Oracle} {st st' : St} {r : Nat} {step : StepRef} {b : Nat → List Ev}

/-- `st'` continues `st`: the invariant carries over, and steps stay steps -/
structure Ext (st st' : St) : Prop where
  ei : ∀ {b : Nat → List Ev}, EI b st → EI b st'
  keep : ∀ {r : Nat} {stp : Option StepRef}, StepOf st.s r stp → StepOf st'.s r stp

theorem Ext.refl : Ext st st := ⟨id, id⟩

theorem Ext.trans {st'' : St} (h1 : Ext st st') (h2 : Ext st' st'') : Ext st st'' :=
  ⟨fun h => h2.ei (h1.ei h), fun h => h2.keep (h1.keep h)⟩

theorem Ext.andThen {st'' : St} {stp : Option StepRef} (h1 : Ext st st') (hs : StepOf st.s r stp)
    (h2 : StepOf st'.s r stp → Ext st' st'') : Ext st st'' :=
  h1.trans (h2 (h1.keep hs))

theorem Ext.of_runs {more : List SprintEv} {F : Nat → Run → Run}
    (hr : ∀ i, st'.s.runs[i]? = (st.s.runs[i]?).map (F i)) (hsp : st'.sp = st.sp ++ more)
    (hF : ∀ i x, x.path.length ≤ (F i x).path.length ∧ ∃ new, (F i x).events = x.events ++ new ∧
      (∀ e ∈ new, StepOf st.s i e.step) ∧ List.Sublist new (more.map (·.ev))) : Ext st st' := by
  have key : ∀ {i x'}, st'.s.runs[i]? = some x' → ∃ x, st.s.runs[i]? = some x ∧ F i x = x' :=
    fun h => Option.map_eq_some_iff.1 (hr _ ▸ h)
  refine ⟨fun ⟨hev, hb, hsub⟩ => ⟨fun i x' hx' e he sr hsr => ?_,
      fun i hi => hb i (Option.map_eq_none_iff.1 (hr i ▸ hi)), fun i x' hx' => ?_⟩,
    fun hs sr hsr => ⟨(hs sr hsr).1, fun x' hx' => ?_⟩⟩
  · obtain ⟨x, hx, rfl⟩ := key hx'
    obtain ⟨hp, new, hn, hst, _⟩ := hF i x
    have : sr.run = i ∧ sr.idx < x.path.length := (List.mem_append.1 (hn ▸ he)).elim (hev i x hx e · sr hsr)
      fun he => ⟨(hst e he sr hsr).1, (hst e he sr hsr).2 x hx⟩
    exact ⟨this.1, Nat.lt_of_lt_of_le this.2 hp⟩
  · obtain ⟨x, hx, rfl⟩ := key hx'
    obtain ⟨_, new, hn, _, hsl⟩ := hF i x
    obtain ⟨n, hn', hs⟩ := hsub i x hx
    exact ⟨n ++ new, by rw [hn, hn', List.append_assoc], by rw [hsp, List.map_append]; exact hs.append hsl⟩
  · obtain ⟨x, hx, rfl⟩ := key hx'
    exact Nat.lt_of_lt_of_le ((hs sr hsr).2 x hx) (hF _ x).1

theorem Ext_logEvents {stp : Option StepRef} (hs : StepOf st.s r stp) (ks : List EvK) :
    Ext st (logEvents st r stp ks) := by
  rw [logEvents_eq]
  refine .of_runs (getElem?_modifyRun _ _ _) rfl fun i x => ?_
  split
  · subst i
    exact ⟨Nat.le_refl _, _, rfl, fun e he => by obtain ⟨k, _, rfl⟩ := List.mem_map.1 he; exact hs,
      by rw [List.map_map]; exact .refl _⟩
  · exact ⟨Nat.le_refl _, [], by simp, by simp, by simp⟩

/-- `hr` and `hsp` are equations so that `rfl` also covers a state whose session changed its status or `pushed` -/
theorem Ext_quiet {f : Run → Run} (hr : st'.s.runs = (modifyRun st.s r f).runs) (hsp : st'.sp = st.sp)
    (hf : ∀ x, x.path.length ≤ (f x).path.length ∧ (f x).events = x.events) : Ext st st' :=
  .of_runs (more := []) (fun i => hr ▸ getElem?_modifyRun st.s r f i) (by simp [hsp]) fun i x => by
    split
    · exact ⟨(hf x).1, [], by simp [(hf x).2], by simp, by simp⟩
    · exact ⟨Nat.le_refl _, [], by simp, by simp, by simp⟩

theorem Ext_map {g : Run → Run} (hr : st'.s.runs = st.s.runs.map g) (hsp : st'.sp = st.sp)
    (hg : ∀ x, x.path.length ≤ (g x).path.length ∧ (g x).events = x.events) : Ext st st' :=
  .of_runs (more := []) (F := fun _ => g) (fun i => by rw [hr, List.getElem?_map]) (by simp [hsp])
    fun _ x => ⟨(hg x).1, [], by simp [(hg x).2], by simp, by simp⟩

theorem Ext_runs (hr : st'.s.runs = st.s.runs) (hsp : st'.sp = st.sp) : Ext st st' :=
  Ext_map (g := id) (by simp [hr]) hsp fun _ => ⟨Nat.le_refl _, rfl⟩

theorem Ext_failRun {stp : Option StepRef} (hs : StepOf st.s r stp) : Ext st (failRun st r stp) :=
  have h : Ext st { st with s := exitRun st.s r .failed } := Ext_quiet rfl rfl fun _ => ⟨Nat.le_refl _, rfl⟩
  h.andThen hs (Ext_logEvents · [_])

theorem PickOut.ext {node : Node} {e : Option (Option Nat)}
    (h : PickOut st r node step (.ok st' e)) (hs : StepOf st.s r (some step)) : Ext st st' := by
  cases h with
  | noCategory => exact Ext_failRun hs
  | noExit | exit => exact Ext_quiet rfl rfl fun _ => ⟨by simp, rfl⟩

theorem visited_ext (st : St) (r d : Nat) (vc : VisitChoice) :
    Ext st (visited st r d vc) ∧ StepOf (visited st r d vc).s r (some (createStep st r d).2) := by
  have h1 : Ext st (createStep st r d).1 := Ext_quiet rfl rfl fun _ => ⟨by simp, rfl⟩
  have hs : StepOf (createStep st r d).1.s r (some (createStep st r d).2) := by
    rintro sr ⟨⟩
    refine ⟨rfl, fun x' hx' => ?_⟩
    simp only [createStep, getElem?_modifyRun] at hx'
    obtain ⟨x, hx, rfl⟩ := Option.map_eq_some_iff.1 hx'
    simp [createStep, hx]
  have h2 : Ext (createStep st r d).1 (visited st r d vc) := by
    refine (Ext_logEvents hs vc.events).trans ?_
    unfold visited
    cases vc.pushed
    · exact .refl
    · exact Ext_runs rfl rfl
  exact ⟨h1.trans h2, h2.keep hs⟩

theorem VisitOut.ext {d : Nat} {vc : VisitChoice} {node : Node} {e : Option (Option Nat)}
    (h : VisitOut (visited st r d vc) r node (createStep st r d).2 (.ok st' step e)) :
    Ext st st' ∧ StepOf st'.s r (some step) := by
  obtain ⟨h0, hs⟩ := visited_ext st r d vc
  suffices Ext (visited st r d vc) st' ∧ step = (createStep st r d).2 from ⟨h0.trans this.1, this.2 ▸ this.1.keep hs⟩
  cases h with
  | stay => exact ⟨.refl, rfl⟩
  | failed | wait => exact ⟨Ext_quiet rfl rfl fun _ => ⟨Nat.le_refl _, rfl⟩, rfl⟩
  | pick _ h => exact ⟨h.ext hs, rfl⟩

theorem FindOut.err_ext (h : FindOut a st r (.err st')) : Ext st st' := by
  cases h with
  | noLocation => exact .refl
  | routeErr hloc evs => exact Ext_logEvents (StepOf_pathLocation hloc) evs

theorem FindOut.ok_ext {e : Option (Option Nat)} (h : FindOut a st r (.ok st' e)) :
    Ext st st' := by
  cases h with
  | skip => exact .refl
  | pick _ hloc evs h =>
    have hs := StepOf_pathLocation hloc
    exact (Ext_logEvents hs evs).andThen hs h.ext

/-- the event invariant at the head of the loop; `b r`: the events run `r` held before the call -/
structure LEvents (b : Nat → List Ev) (l : Loop) : Prop where
  ei : EI b l.st
  step : ∀ c, l.cur = some c → StepOf l.st.s c l.step

def ResEv (b : Nat → List Ev) : Result → Prop := OnRet (EI b)

/-- pushing a run is the one change that is no `Ext`: a run appears -/
theorem EI_pushRun {s : Session} {sp : List SprintEv} {flow : Nat} {parent : Option Nat} (h : EI b ⟨s, sp⟩) :
    EI b ⟨pushRun s flow parent, sp⟩ := by
  obtain ⟨hev, hb, hsub⟩ := h
  have beyond : ∀ {i}, s.runs.length ≤ i → b i = [] := fun hi => hb _ (List.getElem?_eq_none hi)
  refine ⟨fun i y hy e he => ?_, fun i hi => beyond (Nat.le_trans (by simp [pushRun]) (List.getElem?_eq_none_iff.1 hi)),
    fun i y hy => ?_⟩
  · rcases of_getElem?_pushRun hy with h | ⟨_, rfl⟩
    · exact hev i y h e he
    · cases he
  · rcases of_getElem?_pushRun hy with h | ⟨rfl, rfl⟩
    · exact hsub i y h
    · exact ⟨[], by simp [beyond (Nat.le_refl _)], List.nil_sublist _⟩

theorem DestOut.ev {l : Loop} {x : Loop × Option Nat} (h : DestOut a l x) (hl : LEvents b l) : LEvents b x.1 := by
  cases h with
  | follow => exact ⟨hl.ei, hl.step⟩
  | idle => exact hl
  | push p hp s0 hs0 dest =>
    refine ⟨EI_pushRun ?_, fun _ _ => StepOf_none⟩
    subst hs0
    split
    · exact (Ext_map (st' := { l.st with s := exitAll l.st.s }) rfl rfl fun _ => ⟨Nat.le_refl _, rfl⟩).ei hl.ei
    · exact hl.ei

theorem NoDestOut.ev {l : Loop} {cur : Nat} {res : Sum Loop Result} (h : NoDestOut a l cur res)
    (hl : EI b l.st) : IterPost (LEvents b) (ResEv b) res := by
  have hs := StepOf_pathLocation_map a l.st.s
  have toP : ∀ {p : Nat} {st' : St}, Ext l.st st' → ∀ {e : Option (Option Nat)},
      LEvents b { st := st', cur := some p, exit := e, step := (pathLocation a l.st.s p).map Prod.fst, n := l.n } :=
    fun h _ => ⟨h.ei hl, fun c hc => by cases hc; exact h.keep (hs _)⟩
  cases h with
  | ended => exact (Ext_runs rfl rfl).ei hl
  | childFailed => exact toP (Ext_failRun (hs _))
  | noFlow => exact toP (Ext_failRun (StepOf_none))
  | findErr _ _ h => exact toP (h.err_ext.trans (Ext_failRun (StepOf_none)))
  | findOk _ _ h => exact toP h.ok_ext
  | tapeErr => trivial

theorem GoDestOut.ev {o : Opts} {l : Loop} {cur d : Nat} {res : Sum Loop Result}
    (h : GoDestOut a o l cur d res) (hl : LEvents b l) (hcur : l.cur = some cur) : IterPost (LEvents b) (ResEv b) res := by
  have hs := hl.step cur hcur
  cases h with
  | limit => exact ⟨(Ext_failRun hs).ei hl.ei, fun c hc => by cases hcur.symm.trans hc; exact (Ext_failRun hs).keep hs⟩
  | noNode => exact hl.ei
  | visitErr _ _ vc => exact (visited_ext l.st cur d vc).1.ei hl.ei
  | waits _ _ _ h => exact h.ext.1.ei hl.ei
  | next _ _ _ h => exact ⟨h.ext.1.ei hl.ei, fun c hc => by cases hcur.symm.trans hc; exact h.ext.2⟩
  | tapeErr => trivial

theorem iter_ev (a : Assets) (o : Opts) (orc : Oracle) (l : Loop) (hl : LEvents b l) :
    IterPost (LEvents b) (ResEv b) (iter a o orc l) :=
  iter_elim trivial
    (fun hd _ h => by
      refine h.ev (Ext.ei ?_ (hd.ev hl).ei)
      unfold finished finishRun
      split
      · exact .refl
      · exact Ext_quiet rfl rfl fun _ => ⟨Nat.le_refl _, rfl⟩)
    (fun hd hcur h => h.ev (hd.ev hl) hcur)

/-- the events the runs of `s` hold before the call -/
def before (s : Session) (r : Nat) : List Ev := ((s.runs[r]?).map (·.events)).getD []

theorem EI_init (s : Session) (sp : List SprintEv) (h : EvSteps s) : EI (before s) ⟨s, sp⟩ :=
  ⟨h, fun r hr => by simp [before, hr], fun r x hx => ⟨[], by simp [before, hx], List.nil_sublist _⟩⟩

theorem start_ev (a : Assets) (o : Opts) (orc : Oracle) : ResEv (fun _ => []) (start a o orc) := by
  have h0 : ∀ sp, EI (fun _ => []) ⟨emptySession, sp⟩ := fun sp =>
    EI_init emptySession sp fun i x hx => by simp [emptySession] at hx
  rw [start_eq]
  split
  · exact h0 _
  · exact loop_inv (iter_ev a o orc) trivial _ _ ⟨(Ext_runs rfl rfl).ei (h0 _), fun c hc => by cases hc⟩

theorem Ext_failSession (st : St) (w : Nat) : Ext st (failSession st w) :=
  (Ext_failRun (StepOf_none)).trans (Ext_map rfl rfl fun x => by split <;> exact ⟨Nat.le_refl _, rfl⟩)

theorem Ext_baseApply (hs : StepOf st.s r (some step)) :
    Ext st (baseApply orc st r step) := by
  have h := Ext_logEvents hs orc.applyBase
  unfold baseApply
  simp only
  split
  · exact h.trans (Ext_quiet rfl rfl fun _ => ⟨Nat.le_refl _, rfl⟩)
  · exact h

theorem Ext_applyResume (k : ResumeKind)
    (hs : StepOf st.s r (some step)) : Ext st (applyResume orc st r step k) := by
  unfold applyResume
  cases k with
  | msg => exact ((Ext_baseApply hs).andThen hs (Ext_logEvents · [_])).andThen hs (Ext_logEvents · _)
  | timeout | dial => exact ((Ext_logEvents hs [_]).andThen hs Ext_baseApply).andThen hs (Ext_logEvents · _)
  | expiration =>
    have h : Ext st { st with s := exitRun st.s r .expired } := Ext_quiet rfl rfl fun _ => ⟨Nat.le_refl _, rfl⟩
    exact ((h.andThen hs (Ext_logEvents · [_])).andThen hs Ext_baseApply).andThen hs (Ext_logEvents · _)

theorem resume_ev (a : Assets) (o : Opts) (orc : Oracle) (s : Session) (k : ResumeKind) (h : EvSteps s) :
    ResEv (before s) (resume a o orc s k) := by
  have h0 := EI_init s [] h
  have happ : ∀ {w step node}, pathLocation a s w = some (step, node) → Ext ⟨s, []⟩ (applied orc s k w step) := fun hloc =>
    (Ext_runs rfl rfl : Ext ⟨s, []⟩ ⟨{ s with status := .active }, []⟩).andThen (StepOf_pathLocation hloc) (Ext_applyResume k)
  have hr := resume_out a o orc s k
  generalize resume a o orc s k = res at hr
  cases hr with
  | rejected | tapeErr => trivial
  | unrecoverable w => exact (Ext_failSession _ w).ei h0
  | findErr _ hloc hf => exact (((happ hloc).trans hf.err_ext).trans (Ext_failSession _ _)).ei h0
  | loop _ hloc hf =>
    have e := (happ hloc).trans hf.ok_ext
    exact loop_inv (iter_ev a o orc) trivial _ _ ⟨e.ei h0, fun c hc => by cases hc; exact e.keep (StepOf_pathLocation hloc)⟩

end GoflowModel.Engine
