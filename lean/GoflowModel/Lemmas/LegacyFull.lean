import GoflowModel.Excellent.LegacyTable
import GoflowModel.Lemmas.ExprParseShape
import GoflowModel.Lemmas.NumValue
import GoflowModel.Lemmas.PrintNewline
/-!
The migrated tree of any well-formed legacy expression is in the shape the new parser produces
(`Shape`), and — there being no anonymous functions in it — lets every operator follow that its
level allows (`edge = level`).  `Good` is the two together.
-/
namespace GoflowModel.LegacyFull
open GoflowModel.Expr GoflowModel.Expr.Full

/-- what `Expr.shape_of_core` says of the operator core -/
def Good (e : Expr) : Prop := Shape (.e e) ∧ edge e = level e

theorem level_le_14 (e : Expr) : level e ≤ 14 := by
  cases e with
  | bin o _ _ => exact Nat.le_of_lt (prec_lt_14 o)
  | _ => simp [level]

theorem good_paren {e : Expr} (h : Good e) : Good (.paren e) := ⟨.paren h.1, rfl⟩

theorem good_wrapTo {e : Expr} (h : Good e) (lvl : Nat) (hl : lvl ≤ 14) :
    Good (wrapTo lvl e) ∧ lvl ≤ level (wrapTo lvl e) := by
  unfold wrapTo
  split
  · exact ⟨good_paren h, hl⟩
  · exact ⟨h, by omega⟩

theorem good_null : Good .null := ⟨.null, rfl⟩
theorem good_bool : ∀ b : Bool, Good (.bool b)
  | false => ⟨.fls, rfl⟩
  | true => ⟨.tru, rfl⟩
theorem good_num {s : List Char} (h : numValue s = s) : Good (.num s) := ⟨.num h, rfl⟩
theorem good_text (v : List Char) : Good (.text v) := ⟨.text (literalValue_quote Tables.isPrint_newline v), rfl⟩

theorem good_neg {e : Expr} (h : Good e) (hl : 13 ≤ level e) : Good (.neg e) :=
  ⟨.neg h.1 hl, by show min 13 (edge e) = 13; rw [h.2]; omega⟩

theorem good_bin {o : BinOp} {l r : Expr} (hl : Good l) (hr : Good r) (h1 : o.prec ≤ level l)
    (h2 : o.prec + 1 ≤ level r) : Good (.bin o l r) :=
  ⟨.bin hl.1 hr.1 (hl.2 ▸ h1) h2, by show min o.prec (edge r) = o.prec; rw [hr.2]; omega⟩

theorem good_bin_wrapTo {o : BinOp} {l r : Expr} (hl : Good l) (h1 : o.prec ≤ level l) (hr : Good r) :
    Good (.bin o l (wrapTo (o.prec + 1) r)) :=
  have w := good_wrapTo hr (o.prec + 1) (prec_lt_14 o)
  good_bin hl w.1 h1 w.2

def GoodAll (ps : List Expr) : Prop := ∀ e ∈ ps, Good e

theorem goodAll_of (l : List Expr) (h : ∀ e ∈ l, Good e) : GoodAll l := h

theorem GoodAll.nil : GoodAll [] := nofun
theorem GoodAll.cons {a : Expr} {l : List Expr} (ha : Good a) (hl : GoodAll l) : GoodAll (a :: l) :=
  List.forall_mem_cons.2 ⟨ha, hl⟩
theorem GoodAll.head {a : Expr} {l : List Expr} (h : GoodAll (a :: l)) : Good a := (List.forall_mem_cons.1 h).1
theorem GoodAll.tail {a : Expr} {l : List Expr} (h : GoodAll (a :: l)) : GoodAll l := (List.forall_mem_cons.1 h).2

theorem shape_toArgs : ∀ (ps : List Expr), GoodAll ps → Shape (.a (toArgs ps))
  | [], _ => .argsNil
  | _ :: rest, h => .argsCons h.head.1 (shape_toArgs rest h.tail)

theorem good_call {n : List Char} (hn : lowerName n = n) {as : Args} (h : Shape (.a as)) : Good (.call (.ref n) as) :=
  ⟨.call (.ref hn) rfl h, rfl⟩

theorem good_getP {ps : List Expr} (h : GoodAll ps) (i : Nat) : Good (getP ps i) := by
  unfold getP
  rw [List.getD_eq_getElem?_getD]
  cases hi : ps[i]? with
  | none => exact good_null
  | some e => exact h e (List.mem_of_getElem? hi)

mutual
  theorem good_inst (ps : List Expr) (h : GoodAll ps) :
      ∀ t : T, TOK t = true → Good (inst ps t) ∧ tlevel t ≤ level (inst ps t)
    | .hole i lvl, ht => good_wrapTo (good_getP h i) lvl (of_decide_eq_true ht)
    | .num s, ht => ⟨good_num (beq_iff_eq.1 ht), Nat.le_refl _⟩
    | .text v, _ => ⟨good_text v, Nat.le_refl _⟩
    | .bool b, _ => ⟨good_bool b, Nat.le_refl _⟩
    | .null, _ => ⟨good_null, Nat.le_refl _⟩
    | .neg e, ht => by
      simp only [TOK, Bool.and_eq_true, decide_eq_true_eq] at ht
      have ih := good_inst ps h e ht.1
      exact ⟨good_neg ih.1 (Nat.le_trans ht.2 ih.2), Nat.le_refl _⟩
    | .bin o l r, ht => by
      simp only [TOK, Bool.and_eq_true, decide_eq_true_eq] at ht
      have il := good_inst ps h l ht.1.1.1
      have ir := good_inst ps h r ht.1.1.2
      exact ⟨good_bin il.1 ir.1 (Nat.le_trans ht.1.2 il.2) (Nat.le_trans ht.2 ir.2), Nat.le_refl _⟩
    | .call n as, ht => by
      simp only [TOK, Bool.and_eq_true, beq_iff_eq] at ht
      exact ⟨good_call ht.1 (shape_instArgs ps h as ht.2), Nat.le_refl _⟩
  theorem shape_instArgs (ps : List Expr) (h : GoodAll ps) :
      ∀ as : TArgs, TOKArgs as = true → Shape (.a (instArgs ps as))
    | .nil, _ => .argsNil
    | .cons e rest, ht => by
      simp only [TOKArgs, Bool.and_eq_true] at ht
      exact .argsCons (good_inst ps h e ht.1).1.1 (shape_instArgs ps h rest ht.2)
end

theorem numValue_one : numValue ['1'] = ['1'] := by decide +kernel

theorem good_itoaE (n : Int) : Good (itoaE n) := by
  unfold itoaE
  split
  · exact good_neg (good_num (numValue_idem _)) (Nat.le_succ 13)
  · exact good_num (numValue_idem _)

theorem good_decr {e : Expr} (h : Good e) : Good (decr e) := by
  unfold decr
  split
  · split
    · exact h
    · exact good_itoaE _
  · have w := good_wrapTo h 10 (by omega)
    exact good_bin w.1 (good_num numValue_one) w.2 (by decide)

theorem good_bySpaces (e : Expr) : Good (bySpaces e) := by
  unfold bySpaces
  split
  · exact good_text _
  · exact good_null

theorem good_applyPM : ∀ (pm : PM) {e : Expr}, Good e → Good (applyPM pm e)
  | .asIs, _, h => h
  | .decr, _, h => good_decr h
  | .bySpaces, e, _ => good_bySpaces e

theorem goodAll_zipPM : ∀ (pms : List PM) (es : List Expr), GoodAll es → GoodAll (zipPM pms es)
  | [], _, _ => .nil
  | _ :: _, [], _ => .nil
  | pm :: pms, _ :: es, h => .cons (good_applyPM pm h.head) (goodAll_zipPM pms es h.tail)

theorem good_joinRest (o : BinOp) : ∀ (rest : List Expr) (acc : Expr), Good acc → o.prec ≤ level acc → GoodAll rest →
    Good (joinRest o acc rest)
  | [], _, ha, _, _ => ha
  | _ :: rest, _, ha, hl, h => good_joinRest o rest _ (good_bin_wrapTo ha hl h.head) (Nat.le_refl _) h.tail

theorem good_applyMig (m : Mig) (ps : List Expr) (h : GoodAll ps) (hm : MigOK m ps.length = true) :
    Good (applyMig m ps) := by
  cases m with
  | call n => exact good_call (beq_iff_eq.1 hm) (shape_toArgs ps h)
  | join o =>
    cases ps with
    | nil => cases hm
    | cons p rest =>
      have w := good_wrapTo h.head o.prec (Nat.le_of_lt (prec_lt_14 o))
      exact good_joinRest o rest _ w.1 w.2 h.tail
  | tmpl t arity =>
    simp only [MigOK, Bool.and_eq_true] at hm
    exact (good_inst ps h t hm.1).1
  | params n pms minArgs defaults =>
    simp only [MigOK, Bool.and_eq_true, beq_iff_eq, decide_eq_true_eq, List.all_eq_true] at hm
    refine good_call hm.1.1.1.1 (shape_toArgs _ (goodAll_zipPM _ _ (List.forall_mem_append.2 ⟨h, ?_⟩)))
    exact List.forall_mem_map.2 fun d hd => good_num (hm.2 d (List.mem_of_mem_drop hd))

/-! `+` and `-`: visitor.go writes each form with `fmt.Sprintf` from a template, the minutes of a time being
computed first and substituted like a third parameter; `arithT` is those templates. -/

def callT (name : String) (args : List T) : T := .call name.toList (mkTArgs args)

def minutesT : T :=
  .bin .add (.bin .mul (callT "format_time" [.hole 0 0, .text ['t', 't']]) (.num ['6', '0']))
    (callT "format_time" [.hole 0 0, .text ['m']])

def daysT (minus : Bool) : T :=
  callT "datetime_add" [.hole 0 0, if minus then .neg (.hole 1 13) else .hole 1 0, .text ['D']]

def addT (minus : Bool) : T := callT "legacy_add" [.hole 0 0, if minus then .neg (.hole 1 13) else .hole 1 0]

def arithT : Kind → Bool → T
  | .datetimeNumber, minus => daysT minus
  | .dateNumber false, minus => daysT minus
  | .dateNumber true, minus => callT "format_date" [daysT minus]
  | .datetimeTime, false => callT "datetime_add" [.hole 0 0, .hole 2 0, .text ['m']]
  | .datetimeTime, true => callT "datetime_add" [.hole 0 0, .neg (.hole 2 13), .text ['m']]
  | .replaceTime, false => callT "replace_time" [.hole 0 0, .hole 1 0]
  | .replaceTime, true => addT true
  | .fallback, minus => addT minus

/- `rfl` with `l`, `r` variable: a hole at level 0 never wraps its parameter, and `asMinutes r` is a sum,
below level 13, whatever `r` is. -/
theorem arithE_eq (k : Kind) (minus : Bool) (l r : Expr) :
    arithE k minus l r = inst [l, r, asMinutes r] (arithT k minus) := by
  rcases k with _ | ⟨_ | _⟩ | _ | _ | _ <;> cases minus <;> rfl

theorem arithS_eq (k : Kind) (minus : Bool) (l r : Expr) :
    arithS k minus l r = instS [l, r, asMinutesS r] (arithT k minus) := by
  rcases k with _ | ⟨_ | _⟩ | _ | _ | _ <;> cases minus <;> rfl

theorem tok_arithT (k : Kind) (minus : Bool) : TOK (arithT k minus) = true := by
  rcases k with _ | ⟨_ | _⟩ | _ | _ | _ <;> cases minus <;>
    simp (disch := with_reducible rfl) only [arithT, daysT, addT, callT, toList_lit] <;> decide

theorem tok_minutesT : TOK minutesT = true := by
  simp (disch := with_reducible rfl) only [minutesT, callT, toList_lit]
  decide

theorem good_asMinutes {r : Expr} (h : Good r) : Good (asMinutes r) :=
  (good_inst [r] (.cons h .nil) minutesT tok_minutesT).1

theorem good_arithE (k : Kind) (minus : Bool) {l r : Expr} (hl : Good l) (hr : Good r) : Good (arithE k minus l r) :=
  arithE_eq .. ▸ (good_inst _ (.cons hl (.cons hr (.cons (good_asMinutes hr) .nil))) _ (tok_arithT k minus)).1

theorem good_mkPath : ∀ (ls : List (List Char)) (c : Expr), Good c → isAtom c = true → Good (mkPath c ls)
  | [], _, h, _ => h
  | _ :: rest, _, h, ha => good_mkPath rest _ ⟨.dot h.1 ha, rfl⟩ rfl

theorem migArgs_length : ∀ args : LFArgs, (migArgs args).length = args.length
  | .nil => rfl
  | .cons _ rest => congrArg (· + 1) (migArgs_length rest)

mutual
  theorem good_migF : ∀ l : LF, LWF l → Good (migF l)
    | .path r ls, h => good_mkPath ls _ ⟨.ref h, rfl⟩ rfl
    | .num s, h => good_num h
    | .str v, _ => good_text v
    | .bool b, _ => good_bool b
    | .neg e, h =>
      have w := good_wrapTo (good_migF e h) 13 (by omega)
      good_neg w.1 w.2
    | .paren e, h => good_paren (good_migF e h)
    | .bin o l r, h =>
      have a := good_wrapTo (good_migF l h.1) o.prec (Nat.le_of_lt (prec_lt_14 o))
      good_bin_wrapTo a.1 a.2 (good_migF r h.2)
    | .arith k minus l r, h => good_arithE k minus (good_migF l h.1) (good_migF r h.2)
    | .fn m args, h => good_applyMig m _ (goodAll_migArgs args h.2) (migArgs_length args ▸ h.1)
  theorem goodAll_migArgs : ∀ args : LFArgs, LWFArgs args → GoodAll (migArgs args)
    | .nil, _ => .nil
    | .cons e rest, h => .cons (good_migF e h.1) (goodAll_migArgs rest h.2)
end

theorem strip_wrapTo (lvl : Nat) (e : Expr) : strip (wrapTo lvl e) = strip e := by
  unfold wrapTo; split <;> rfl

theorem strip_mkPath : ∀ (ls : List (List Char)) (c : Expr), strip (mkPath c ls) = mkPath (strip c) ls
  | [], _ => rfl
  | _ :: rest, _ => strip_mkPath rest _

theorem stripArgs_toArgs : ∀ ps : List Expr, stripArgs (toArgs ps) = toArgs (ps.map strip)
  | [] => rfl
  | e :: rest => congrArg (Args.cons (strip e)) (stripArgs_toArgs rest)

theorem strip_getP (ps : List Expr) (i : Nat) : strip (getP ps i) = getP (ps.map strip) i := by
  unfold getP
  rw [List.getD_eq_getElem?_getD, List.getD_eq_getElem?_getD, List.getElem?_map]
  cases ps[i]? <;> rfl

mutual
  theorem strip_inst (ps : List Expr) : ∀ t : T, strip (inst ps t) = instS (ps.map strip) t
    | .hole i lvl => (strip_wrapTo ..).trans (strip_getP ..)
    | .num _ => rfl
    | .text _ => rfl
    | .bool _ => rfl
    | .null => rfl
    | .neg e => congrArg Expr.neg (strip_inst ps e)
    | .bin o l r => by simp only [inst, instS, strip, strip_inst ps l, strip_inst ps r]
    | .call n as => congrArg (Expr.call _) (stripArgs_instArgs ps as)
  theorem stripArgs_instArgs (ps : List Expr) : ∀ as : TArgs, stripArgs (instArgs ps as) = instSArgs (ps.map strip) as
    | .nil => rfl
    | .cons e rest => by simp only [instArgs, instSArgs, stripArgs, strip_inst ps e, stripArgs_instArgs ps rest]
end

theorem strip_joinRest (o : BinOp) : ∀ (rest : List Expr) (acc : Expr),
    strip (joinRest o acc rest) = semJoinRest o (strip acc) (rest.map strip)
  | [], _ => rfl
  | q :: rest, acc => by simp only [joinRest, List.map_cons, semJoinRest, strip_joinRest o rest, strip, strip_wrapTo]

theorem strip_bySpaces (e : Expr) : strip (bySpaces e) = bySpaces e := by
  unfold bySpaces; split <;> rfl

theorem map_strip_zipPM : ∀ (pms : List PM) (ms : List Expr),
    (zipPM pms ms).map strip = zipPMS pms ms (ms.map strip)
  | [], _ => rfl
  | _ :: _, [] => rfl
  | pm :: pms, m :: ms => by
    simp only [zipPM, List.map_cons, zipPMS, map_strip_zipPM pms ms]
    cases pm <;> simp only [applyPM, strip_bySpaces]

theorem strip_applyMig (m : Mig) (ps : List Expr) : strip (applyMig m ps) = applyMigS m ps (ps.map strip) := by
  cases m with
  | call n => simp only [applyMig, applyMigS, strip, stripArgs_toArgs]
  | join o =>
    cases ps with
    | nil => rfl
    | cons p rest => simp only [applyMig, applyMigS, List.map_cons, strip_joinRest, strip_wrapTo]
  | tmpl t arity => exact strip_inst ps t
  | params n pms minArgs defaults =>
    have hd : ∀ l : List (List Char), l.map (strip ∘ Expr.num) = l.map Expr.num := fun _ => rfl
    simp only [applyMig, applyMigS, strip, stripArgs_toArgs, map_strip_zipPM, List.map_append, List.map_map, hd]

theorem strip_fnCall (name : String) (ps : List Expr) : strip (fnCall name ps) = fnCall name (ps.map strip) :=
  congrArg (Expr.call _) (stripArgs_toArgs ps)

theorem strip_arithE (k : Kind) (minus : Bool) (l r : Expr) :
    strip (arithE k minus l r) = arithS k minus (strip l) (strip r) := by
  rw [arithE_eq, arithS_eq, strip_inst]; rfl

mutual
  theorem strip_migF : ∀ l : LF, strip (migF l) = semF l
    | .path r ls => strip_mkPath ls _
    | .num _ => rfl
    | .str _ => rfl
    | .bool _ => rfl
    | .neg e => by simp only [migF, semF, strip, strip_wrapTo, strip_migF e]
    | .paren e => strip_migF e
    | .bin o l r => by simp only [migF, semF, strip, strip_wrapTo, strip_migF l, strip_migF r]
    | .arith k minus l r => by simp only [migF, semF, strip_arithE, strip_migF l, strip_migF r]
    | .fn m args => by simp only [migF, semF, strip_applyMig, map_strip_migArgs args]
  theorem map_strip_migArgs : ∀ args : LFArgs, (migArgs args).map strip = semArgs args
    | .nil => rfl
    | .cons e rest => by simp only [migArgs, semArgs, List.map_cons, strip_migF e, map_strip_migArgs rest]
end

end GoflowModel.LegacyFull
