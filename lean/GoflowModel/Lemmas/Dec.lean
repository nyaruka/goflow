import GoflowModel.Basic.Dec
import GoflowModel.Lemmas.Basics
/-! For the number round trip (C13): the text of a coefficient with a decimal point (`pointed`), and what the reader and
the normal form make of the zeros at either end of it. -/
namespace GoflowModel.Dec

theorem head?_append_of_ne_nil {α : Type} {l : List α} (h : l ≠ []) (r : List α) : (l ++ r).head? = l.head? := by
  cases l with
  | nil => exact absurd rfl h
  | cons => rfl

theorem dropWhile_zero_of_head_ne (l : List Char) (h : l.head? ≠ some '0') :
    l.dropWhile (· = '0') = l :=
  List.dropWhile_beq_eq_self_of_head?_ne h

theorem takeWhile_zero_of_head_ne (l : List Char) (h : l.head? ≠ some '0') :
    l.takeWhile (· = '0') = [] := by
  have := List.takeWhile_append_dropWhile (p := (· = '0')) (l := l)
  rwa [dropWhile_zero_of_head_ne l h, List.append_left_eq_self] at this

theorem takeWhile_zero_eq_replicate (l : List Char) :
    l.takeWhile (· = '0') = List.replicate (l.takeWhile (· = '0')).length '0' :=
  List.eq_replicate_iff.2 ⟨rfl, fun b hb => by simpa using List.all_eq_true.1 List.all_takeWhile b hb⟩

theorem trimTrailing_decomp (l : List Char) :
    l = trimTrailingZeros l ++ List.replicate (trailingZeros l) '0' := by
  have h := congrArg List.reverse (List.takeWhile_append_dropWhile (p := (· = '0')) (l := l.reverse))
  rw [takeWhile_zero_eq_replicate l.reverse] at h
  simpa [trimTrailingZeros, trailingZeros] using h.symm

theorem trimTrailing_last_ne (l : List Char) : (trimTrailingZeros l).getLast? ≠ some '0' := by
  intro h
  rw [trimTrailingZeros, List.getLast?_reverse] at h
  simpa using head?_dropWhile h

theorem trimTrailing_unique {t : List Char} (h : t.getLast? ≠ some '0') (z : Nat) :
    trimTrailingZeros (t ++ List.replicate z '0') = t ∧ trailingZeros (t ++ List.replicate z '0') = z := by
  have hr : t.reverse.head? ≠ some '0' := by rwa [List.head?_reverse]
  have hz : ∀ c ∈ List.replicate z '0', decide (c = '0') = true := by simp
  simp only [trimTrailingZeros, trailingZeros, List.reverse_append, List.reverse_replicate,
    List.dropWhile_append_of_pos hz, List.takeWhile_append_of_pos hz, dropWhile_zero_of_head_ne _ hr,
    takeWhile_zero_of_head_ne _ hr, List.reverse_reverse, List.append_nil, List.length_replicate, and_self]

theorem trimTrailing_append_zeros (l : List Char) (n : Nat) :
    trimTrailingZeros (l ++ List.replicate n '0') = trimTrailingZeros l ∧
    trailingZeros (l ++ List.replicate n '0') = trailingZeros l + n := by
  have h := trimTrailing_unique (trimTrailing_last_ne l) (trailingZeros l + n)
  rwa [← List.replicate_append_replicate, ← List.append_assoc, ← trimTrailing_decomp l] at h

theorem trimTrailing_append (a l : List Char) (h : trimTrailingZeros l ≠ []) :
    trimTrailingZeros (a ++ l) = a ++ trimTrailingZeros l ∧ trailingZeros (a ++ l) = trailingZeros l := by
  have hl : (a ++ trimTrailingZeros l).getLast? ≠ some '0' := by
    have := trimTrailing_last_ne l
    cases hg : (trimTrailingZeros l).getLast? with
    | none => exact absurd (List.getLast?_eq_none_iff.1 hg) h
    | some x => simpa [hg] using this
  have := trimTrailing_unique hl (trailingZeros l)
  rwa [List.append_assoc, ← trimTrailing_decomp l] at this

theorem trimTrailing_idem (l : List Char) : trimTrailingZeros (trimTrailingZeros l) = trimTrailingZeros l ∧
    trailingZeros (trimTrailingZeros l) = 0 := by
  simpa using trimTrailing_unique (trimTrailing_last_ne l) 0

theorem trimTrailing_all_zero (n : Nat) : trimTrailingZeros (List.replicate n '0') = [] := by
  simpa using (trimTrailing_unique (t := []) (by simp) n).1

theorem trimTrailing_eq_nil_iff (l : List Char) : trimTrailingZeros l = [] ↔ l = List.replicate l.length '0' := by
  constructor
  · intro h
    have hd := trimTrailing_decomp l
    rw [h, List.nil_append] at hd
    have hl := congrArg List.length hd
    simp only [List.length_replicate] at hl
    rw [← hl] at hd; exact hd
  · intro h; rw [h]; exact trimTrailing_all_zero _

/-- The digits `l` with a point `k` places from the right, as `Decimal.String()` writes them
(`Props.C13.render_pointed`: `render` is `pointed` of the coefficient padded with zeros). -/
def pointed (l : List Char) (k : Nat) : List Char :=
  let full := List.replicate (k + 1 - l.length) '0' ++ l
  let frac := trimTrailingZeros (full.drop (full.length - k))
  if frac = [] then full.take (full.length - k) else full.take (full.length - k) ++ '.' :: frac

theorem pointed_append_zeros (l : List Char) (j k : Nat) :
    pointed (l ++ List.replicate j '0') (k + j) = pointed l k := by
  have hp : k + j + 1 - (l ++ List.replicate j '0').length = k + 1 - l.length := by
    rw [List.length_append, List.length_replicate]; omega
  simp only [pointed, hp, ← List.append_assoc]
  generalize List.replicate (k + 1 - l.length) '0' ++ l = F
  have hn : (F ++ List.replicate j '0').length - (k + j) = F.length - k := by
    rw [List.length_append, List.length_replicate]; omega
  rw [hn, List.take_append_of_le_length (Nat.sub_le _ _), List.drop_append_of_le_length (Nat.sub_le _ _),
    (trimTrailing_append_zeros _ _).1]

theorem pointed_zero (l : List Char) (hne : l ≠ []) : pointed l 0 = l := by
  have : 0 + 1 - l.length = 0 := by cases l with | nil => exact absurd rfl hne | cons => simp
  simp [pointed, this, trimTrailingZeros]

theorem norm_zeros_append (neg : Bool) (p : Nat) (l : List Char) (e : Int) :
    norm ⟨neg, List.replicate p '0' ++ l, e⟩ = norm ⟨neg, l, e⟩ := by
  have hz : ∀ c ∈ List.replicate p '0', decide (c = '0') = true := by simp
  unfold norm trimLeadingZeros
  simp only [List.dropWhile_append_of_pos hz]

theorem norm_append_zeros (neg : Bool) (l : List Char) (j : Nat) (e : Int) :
    norm ⟨neg, l ++ List.replicate j '0', e⟩ = norm ⟨neg, l, e + j⟩ := by
  have hz : (List.replicate j '0').dropWhile (· = '0') = [] := by simp
  simp only [norm, trimLeadingZeros, List.dropWhile_append, hz]
  by_cases h : l.dropWhile (· = '0') = []
  · simp [h]
  · simp only [h, List.isEmpty_iff, if_false, trimTrailing_append_zeros, List.append_eq_nil_iff, false_and]
    congr 1; omega

theorem isDigit_of_mem_zeros {n : Nat} : ∀ c ∈ List.replicate n '0', isDigit c = true := by
  intro c hc; rw [(List.mem_replicate.1 hc).2]; decide

theorem parseBody_int (s : List Char) (hne : s ≠ []) (h : ∀ c ∈ s, isDigit c = true) :
    parseBody s = some (s, 0) := by
  have ht : s.takeWhile isDigit = s := by simpa using List.takeWhile_append_of_pos (l₂ := []) h
  have hd : s.dropWhile isDigit = [] := by simpa using List.dropWhile_append_of_pos (l₂ := []) h
  simp [parseBody, ht, hd, hne]

theorem parseBody_frac (i f : List Char) (hi : ∀ c ∈ i, isDigit c = true)
    (hf : ∀ c ∈ f, isDigit c = true) (hfne : f ≠ []) :
    parseBody (i ++ '.' :: f) = some (i ++ f, -(f.length : Int)) := by
  have hall : f.all isDigit = true := by simpa [List.all_eq_true] using hf
  simp [parseBody, List.takeWhile_append_of_pos hi, List.dropWhile_append_of_pos hi, isDigit, hfne, hall]

theorem trimTrailing_digits (l : List Char) (h : ∀ c ∈ l, isDigit c = true) :
    ∀ c ∈ trimTrailingZeros l, isDigit c = true := by
  intro c hc
  have hd := trimTrailing_decomp l
  exact h c (by rw [hd]; simp [hc])

theorem head_ne_dash {l : List Char} (hl : ∀ c ∈ l, isDigit c = true) : l.head? ≠ some '-' :=
  fun h => absurd (hl _ (List.mem_of_mem_head? h)) (by decide)

theorem parse_signed (neg : Bool) {body : List Char} {q : List Char × Int} (hq : parseBody body = some q)
    (hhead : body.head? ≠ some '-') : parse ((if neg then ['-'] else []) ++ body) = some ⟨neg, q.1, q.2⟩ := by
  cases neg with
  | true => simp [parse, hq]
  | false =>
    cases body with
    | nil => simp [parse, hq]
    | cons c r =>
      have hc : c ≠ '-' := by intro ec; subst ec; simp at hhead
      simp only [Bool.false_eq_true, if_false, List.nil_append, parse]
      split
      next heq => exact absurd (List.cons.inj heq).1 hc
      next => simp [hq]

theorem parseBody_pointed {l : List Char} (hl : ∀ c ∈ l, isDigit c = true) (k : Nat) :
    ∃ q, parseBody (pointed l k) = some q ∧ (pointed l k).head? ≠ some '-' ∧
      ∀ neg, norm ⟨neg, q.1, q.2⟩ = norm ⟨neg, l, -(k : Int)⟩ := by
  have hnorm : ∀ neg, norm ⟨neg, l, -(k : Int)⟩ = norm ⟨neg, List.replicate (k + 1 - l.length) '0' ++ l, -(k : Int)⟩ :=
    fun neg => (norm_zeros_append neg _ l _).symm
  simp only [hnorm, pointed]
  -- `full` is the integer part `i` followed by the `k` digits after the point, `f`
  generalize hfull : List.replicate (k + 1 - l.length) '0' ++ l = full
  have hdig : ∀ c ∈ full, isDigit c = true := fun c hc =>
    (List.mem_append.1 (hfull ▸ hc)).elim (isDigit_of_mem_zeros c) (hl c)
  have hlen : full.length ≥ k + 1 := by rw [← hfull]; simp; omega
  have hsplit := (List.take_append_drop (full.length - k) full).symm
  generalize hi : full.take (full.length - k) = i at hsplit ⊢
  generalize hf : full.drop (full.length - k) = f at hsplit ⊢
  have hflen : f.length = k := by rw [← hf, List.length_drop]; omega
  have hine : i ≠ [] := by
    intro e; have := congrArg List.length hsplit; simp [e] at this; omega
  have hidig : ∀ c ∈ i, isDigit c = true := fun c hc => hdig c (by rw [hsplit]; simp [hc])
  have htdig : ∀ c ∈ trimTrailingZeros f, isDigit c = true :=
    trimTrailing_digits f fun c hc => hdig c (by rw [hsplit]; simp [hc])
  -- and `f` is `t` followed by `z` zeros
  have hd := trimTrailing_decomp f
  generalize trimTrailingZeros f = t at hd htdig ⊢
  generalize trailingZeros f = z at hd
  have hk : k = t.length + z := by rw [← hflen, hd, List.length_append, List.length_replicate]
  rw [hsplit, hd, ← List.append_assoc]
  by_cases ht : t = []
  · simp only [ht, if_true, List.append_nil]
    refine ⟨(i, 0), parseBody_int i hine hidig, head_ne_dash hidig, fun neg => ?_⟩
    rw [norm_append_zeros]; congr 2; simp [ht] at hk; omega
  · simp only [ht, if_false]
    refine ⟨_, parseBody_frac i _ hidig htdig ht, ?_, fun neg => ?_⟩
    · rw [head?_append_of_ne_nil hine]; exact head_ne_dash hidig
    · rw [norm_append_zeros]; congr 2; omega

/-! The digits the reader returns, and `trimLeadingZeros`: for `Expr.numValue` (Lemmas/NumValue). -/

theorem parseBody_digits {s : List Char} {p : List Char × Int} (h : parseBody s = some p) :
    ∀ c ∈ p.1, isDigit c = true := by
  have hi : ∀ c ∈ s.takeWhile isDigit, isDigit c = true := List.all_eq_true.1 List.all_takeWhile
  unfold parseBody at h
  simp only at h
  split at h
  next =>  -- no point: the integer part alone
    split at h
    · cases h
    · cases h; exact hi
  next f _ =>  -- a point and the fraction `f`
    split at h
    next hf => cases h; exact List.forall_mem_append.2 ⟨hi, List.all_eq_true.1 hf.2⟩
    · cases h
  · cases h

theorem parse_digits {s : List Char} {d : Dec} (h : Dec.parse s = some d) : ∀ c ∈ d.digits, isDigit c = true := by
  unfold Dec.parse at h
  split at h <;> (obtain ⟨p, hp, rfl⟩ := Option.map_eq_some_iff.1 h; exact parseBody_digits hp)

theorem trimLeading_digits {l : List Char} (h : ∀ c ∈ l, isDigit c = true) : ∀ c ∈ trimLeadingZeros l, isDigit c = true :=
  fun c hc => h c ((List.dropWhile_sublist _).subset hc)

theorem trimLeading_head (l : List Char) : (trimLeadingZeros l).head? ≠ some '0' :=
  fun h => by simpa using head?_dropWhile (p := (· = '0')) h

theorem trimLeading_idem (l : List Char) : trimLeadingZeros (trimLeadingZeros l) = trimLeadingZeros l :=
  dropWhile_eq_self fun _ => head?_dropWhile

end GoflowModel.Dec
