import GoflowModel.ContactQL.Parser
import GoflowModel.Lemmas.CQL
import GoflowModel.Lemmas.Basics
/-!
Printing a simplified query and parsing the printed tokens gives the query back.
A fuel-free relational reading of the part of the parser that printed queries exercise
(conditions, parentheses, `AND`/`OR` chains), proved sound against the executable parser, and
complete on printed queries; then `Simplify` flattens the left-nested tree the parser builds.
-/
namespace GoflowModel.ContactQL

/-- `expression[p]`, its operator loop with the tree `acc` read so far, a primary: the parser's three functions -/
inductive NT where
  | expr (p : Nat)
  | ops (p : Nat) (acc : Node)
  | primary

/-- the operator loop at level `p` stops here -/
def stopsQ (p : Nat) : List Tok → Prop
  | [] => True
  | t :: _ => (t.kind = .and → ¬ p ≤ 6) ∧ (t.kind = .or → ¬ p ≤ 4) ∧
      (t.kind ≠ .and → t.kind ≠ .or → startsExpr t = true → ¬ p ≤ 5)

def sepKind (a : Bool) : TokKind := if a then .and else .or
/-- the level of the right operand: one above the operator's own (left associative) -/
def rightLevel (a : Bool) : Nat := if a then 7 else 5

/-- `QParses env nt ts e rest`: read as `nt`, the tokens `ts` are the tree `e` followed by `rest`.  Juxtaposition and
implicit conditions have no rule here: printed queries contain neither. -/
inductive QParses (env : PEnv) : NT → List Tok → Node → List Tok → Prop where
  | expr {p ts l r1 e r2} : QParses env .primary ts l r1 → QParses env (.ops p l) r1 e r2 → QParses env (.expr p) ts e r2
  | step {a p l t ts r ts' e rest} : t.kind = sepKind a → p < rightLevel a → QParses env (.expr (rightLevel a)) ts r ts' →
      QParses env (.ops p (.comb a [l, r])) ts' e rest → QParses env (.ops p l) (t :: ts) e rest
  | stop {p l ts} : stopsQ p ts → QParses env (.ops p l) ts l ts
  | paren {t ts e t2 rest} : t.kind = .lparen → QParses env (.expr 0) ts e (t2 :: rest) → t2.kind = .rparen →
      QParses env .primary (t :: ts) e rest
  | cond {t c v rest op value pt key} : t.kind = .property → c.kind = .comparator →
      opOfText (env.lower c.text) = some op → literalOf v = some value →
      resolveProp env (env.lower t.text) = some (pt, key) →
      QParses env .primary (t :: c :: v :: rest) (.cond ⟨pt, key, op, value⟩) rest

/-- what the executable parser computes for a nonterminal -/
def run (env : PEnv) (fuel : Nat) : NT → List Tok → Option (Node × List Tok)
  | .expr p, ts => parseExpr env fuel p ts
  | .ops p acc, ts => parseOps env fuel p acc ts
  | .primary, ts => parsePrimary env fuel ts

theorem parseOps_stops (env : PEnv) (f p : Nat) (l : Node) (ts : List Tok) (h : stopsQ p ts) :
    parseOps env (f + 1) p l ts = some (l, ts) := by
  unfold parseOps
  cases ts with
  | nil => rfl
  | cons t rest =>
    simp only [stopsQ] at h
    simp only
    by_cases ha : t.kind = .and
    · simp [ha, h.1 ha]
    · by_cases ho : t.kind = .or
      · simp [ho, h.2.1 ho]
      · by_cases hs : startsExpr t = true
        · simp [ha, ho, hs, h.2.2 ha ho hs]
        · simp [ha, ho, hs]

theorem parseOps_sep (env : PEnv) (f p : Nat) (l : Node) {t : Tok} (ts : List Tok) {a : Bool} (hk : t.kind = sepKind a)
    (hp : p < rightLevel a) :
    parseOps env (f + 1) p l (t :: ts) =
      match parseExpr env f (rightLevel a) ts with
      | none => none
      | some (r, ts') => parseOps env f p (.comb a [l, r]) ts' := by
  -- `rfl`: what is left are the two sides' `match`es, compiled apart
  cases a <;> simp only [parseOps, hk, sepKind, Nat.le_of_lt_succ hp, reduceCtorEq, if_true, if_false, Bool.false_eq_true] <;> rfl

theorem run_of_qparses {env : PEnv} {nt : NT} {ts : List Tok} {e : Node} {rest : List Tok}
    (h : QParses env nt ts e rest) : Ev fun f => run env f nt ts = some (e, rest) := by
  induction h with
  | expr _ _ ih1 ih2 =>
    exact ih1.step₂ ih2 fun f a b => by simp only [run, parseExpr] at a b ⊢; rw [a]; exact b
  | step hk hp _ _ ih1 ih2 =>
    exact ih1.step₂ ih2 fun f a b => by simp only [run] at a b ⊢; rw [parseOps_sep env f _ _ _ hk hp, a]; exact b
  | stop hs => exact .now fun f => parseOps_stops env f _ _ _ hs
  | paren hk _ hk2 ih => exact ih.step 1 fun f a => by simp only [run] at a ⊢; simp [parsePrimary, hk, a, hk2]
  | cond hk hc hop hv hr => exact .now fun f => by simp [run, parsePrimary, hk, hc, hop, hv, hr]

/-- what makes a condition print to tokens that denote it -/
def CondOK (env : PEnv) (c : Cond) : Prop :=
  env.lower (propText c) = propText c ∧ env.lower c.op.text = c.op.text ∧
  (c.ptype = .attr → env.isAttr c.key = true ∧ splitDot c.key = none)

def sameOp (a : Bool) : Node → Bool
  | .comb b _ => a == b
  | .cond _ => false

mutual
  /-- simplified queries: a combination has at least two children, none of them a combination
  with the same operator.  The first half alone is `wellShaped`, which is all that `C15.simplify_spec` proves of the
  shape of what `simplify` returns. -/
  def Simp (env : PEnv) : Node → Prop
    | .cond c => CondOK env c
    | .comb a cs => 2 ≤ cs.length ∧ SimpL env a cs
  def SimpL (env : PEnv) (a : Bool) : List Node → Prop
    | [] => True
    | n :: ns => Simp env n ∧ sameOp a n = false ∧ SimpL env a ns
end

theorem splitDot_prefix (p k : List Char) (hp : '.' ∉ p) : splitDot (p ++ '.' :: k) = some (p, k) := by
  induction p with
  | nil => rfl
  | cons c p ih =>
    have hc : c ≠ '.' := fun e => hp (by simp [e])
    rw [List.cons_append, splitDot, ih fun h => hp (by simp [h])]
    · rfl
    · exact hc

theorem resolveProp_dotted (env : PEnv) (t k : List Char) (ht : '.' ∉ t) :
    resolveProp env (t ++ '.' :: k) =
      if t = "fields".toList then some (.field, k) else if t = "urns".toList then some (.urn, k) else none := by
  rw [resolveProp, splitDot_prefix t k ht]

theorem resolveProp_printed (env : PEnv) (c : Cond) (h : CondOK env c) :
    resolveProp env (env.lower (propText c)) = some (c.ptype, c.key) := by
  rw [h.1]
  obtain ⟨pt, key, op, v⟩ := c
  cases pt with
  | field => simpa [propText] using resolveProp_dotted env "fields".toList key (by simp)
  | urn => simpa [propText] using resolveProp_dotted env "urns".toList key (by simp)
  | attr =>
    have := h.2.2 rfl
    simp only [propText, resolveProp] at this ⊢
    simp [this.1, this.2]

theorem opOfText_text (o : Op) : opOfText o.text = some o := by cases o <;> decide

theorem literalOf_valueTok (pr : Char → Bool) (hpr : pr '\n' = false) (v : List Char) :
    literalOf (valueTok pr v) = some v := by
  unfold valueTok
  split
  · split <;> rfl
  · exact literalValue_quoteValue pr hpr v

theorem promote_keep (a : Bool) (x : Node) (r : List Node) (h : sameOp a x = false) :
    promote a (x :: r) = x :: promote a r := by
  cases x with
  | cond c => rfl
  | comb b gs =>
    have : ¬ b = a := fun e => by simp [sameOp, e] at h
    simp [promote, this]

theorem promote_all_keep (a : Bool) (l : List Node) (h : ∀ c ∈ l, sameOp a c = false) : promote a l = l := by
  induction l with
  | nil => rfl
  | cons x r ih =>
    rw [promote_keep a x r (h x (by simp)), ih (fun c hc => h c (by simp [hc]))]

/-- invariant of the operator loop: the tree built so far, `((t₁ ∘ t₂) ∘ t₃) ∘ …`, simplifies to the combination of
the children read so far (to the first while it is the only one: `flat`) -/
def Flattens (a : Bool) (acc : Node) (cs : List Node) : Prop :=
  simplify acc = some (flat a cs) ∧ cs ≠ [] ∧ ∀ x ∈ cs, sameOp a x = false

theorem Flattens.step {a : Bool} {acc t c : Node} {cs : List Node} (h : Flattens a acc cs)
    (ht : simplify t = some c) (hc : sameOp a c = false) : Flattens a (.comb a [acc, t]) (cs ++ [c]) := by
  obtain ⟨h1, hne, hk⟩ := h
  refine ⟨?_, by simp, List.forall_mem_append.2 ⟨hk, List.forall_mem_singleton.2 hc⟩⟩
  simp only [simplify, simplifyList, h1, ht]
  -- a single child read so far stays as it is; two or more are a combination with the same operator, which `promote` splices
  match cs, hne, hk with
  | [x], _, hk => rw [flat, promote_all_keep a [x, c] (by simpa using ⟨hk x (by simp), hc⟩)]; rfl
  | x :: y :: r, _, _ => simp [flat, promote, promote_keep a c [] hc]

theorem stopsQ_rparen (p : Nat) (rest : List Tok) : stopsQ p (⟨.rparen, [')']⟩ :: rest) := by
  simp [stopsQ, startsExpr]

theorem stopsQ_sep (a : Bool) (rest : List Tok) : stopsQ (rightLevel a) (sepTok a :: rest) := by
  cases a <;> simp [stopsQ, rightLevel, sepTok]

theorem QParses.step_sep {env : PEnv} (a : Bool) {l r e : Node} {ts ts' rest : List Tok}
    (h1 : QParses env (.expr (rightLevel a)) ts r ts') (h2 : QParses env (.ops 0 (.comb a [l, r])) ts' e rest) :
    QParses env (.ops 0 l) (sepTok a :: ts) e rest :=
  .step (by cases a <;> rfl) (by cases a <;> decide) h1 h2

mutual
  theorem primary_printed (env : PEnv) (pr : Char → Bool) (hpr : pr '\n' = false) :
      ∀ (n : Node), Simp env n → ∀ rest, ∃ t, QParses env .primary (nodeToks pr n ++ rest) t rest ∧ simplify t = some n
    | .cond c, h, rest => by
      rw [Simp] at h
      exact ⟨.cond c, .cond rfl rfl (by rw [h.2.1]; exact opOfText_text c.op) (literalOf_valueTok pr hpr c.value)
        (resolveProp_printed env c h), rfl⟩
    | .comb a cs, h, rest => by
      rw [Simp] at h
      obtain ⟨t, hp, hs⟩ := join_printed env pr hpr a cs h.1 h.2 (⟨.rparen, [')']⟩ :: rest) fun p => stopsQ_rparen p rest
      exact ⟨t, by simpa [nodeToks] using QParses.paren rfl hp rfl, hs⟩
  theorem join_printed (env : PEnv) (pr : Char → Bool) (hpr : pr '\n' = false) (a : Bool) :
      ∀ (cs : List Node), 2 ≤ cs.length → SimpL env a cs → ∀ rest, (∀ p, stopsQ p rest) →
        ∃ t, QParses env (.expr 0) (joinToks pr a cs ++ rest) t rest ∧ simplify t = some (.comb a cs)
    | [], h, _, _, _ => by simp at h
    | [_], h, _, _, _ => by simp at h
    | c1 :: c2 :: r, _, h, rest, hr => by
      rw [SimpL] at h
      obtain ⟨t1, hp1, hs1⟩ := primary_printed env pr hpr c1 h.1 (sepTok a :: (joinToks pr a (c2 :: r) ++ rest))
      obtain ⟨e, hops, hse⟩ := ops_printed env pr hpr a (c2 :: r) (by simp) h.2.2 t1 [c1] rest hr
        ⟨hs1, by simp, by simpa using h.2.1⟩
      exact ⟨e, by simpa [joinToks] using QParses.expr hp1 hops, hse⟩
  theorem ops_printed (env : PEnv) (pr : Char → Bool) (hpr : pr '\n' = false) (a : Bool) :
      ∀ (cs : List Node), cs ≠ [] → SimpL env a cs → ∀ (acc : Node) (accs : List Node) (rest : List Tok), (∀ p, stopsQ p rest) →
        Flattens a acc accs →
        ∃ e, QParses env (.ops 0 acc) (sepTok a :: (joinToks pr a cs ++ rest)) e rest ∧ simplify e = some (flat a (accs ++ cs))
    | [], h, _, _, _, _, _, _ => absurd rfl h
    | [c], _, h, acc, accs, rest, hr, hf => by
      rw [SimpL] at h
      obtain ⟨t, hp, hs⟩ := primary_printed env pr hpr c h.1 rest
      exact ⟨_, .step_sep a (.expr hp (.stop (hr _))) (.stop (hr _)), (hf.step hs h.2.1).1⟩
    | c :: c2 :: r, _, h, acc, accs, rest, hr, hf => by
      rw [SimpL] at h
      obtain ⟨t, hp, hs⟩ := primary_printed env pr hpr c h.1 (sepTok a :: (joinToks pr a (c2 :: r) ++ rest))
      obtain ⟨e, hops, hse⟩ := ops_printed env pr hpr a (c2 :: r) (by simp) h.2.2 _ _ rest hr (hf.step hs h.2.1)
      exact ⟨e, by simpa [joinToks] using QParses.step_sep a (.expr hp (.stop (stopsQ_sep a _))) hops, by simpa using hse⟩
end

/-- a whole query: `Stringify` writes no outer parentheses -/
theorem query_printed (env : PEnv) (pr : Char → Bool) (hpr : pr '\n' = false) (n : Node) (h : Simp env n) :
    ∃ t, QParses env (.expr 0) (queryToks pr n) t [] ∧ simplify t = some n := by
  cases n with
  | cond c =>
    obtain ⟨t, hp, hs⟩ := primary_printed env pr hpr (.cond c) h []
    exact ⟨t, by simpa [queryToks, nodeToks] using QParses.expr hp (.stop trivial), hs⟩
  | comb a cs =>
    rw [Simp] at h
    simpa [queryToks] using join_printed env pr hpr a cs h.1 h.2 [] fun _ => trivial

end GoflowModel.ContactQL
