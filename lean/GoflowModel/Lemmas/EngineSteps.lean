import GoflowModel.Lemmas.EngineWalk
/-!
Step counting: how many steps a sprint can create (C05).  Only `createStep` lengthens a path, and
`goDest` calls it only after counting the visit against `MaxStepsPerSprint`.
-/
namespace GoflowModel.Engine

variable {a : Assets} {o : Opts} {l : Loop} {st st' : St} {r cur : Nat} {node : Node} {step : StepRef}
  {e : Option (Option Nat)} {res : Sum Loop Result}

def totalSteps (s : Session) : Nat := (s.runs.map (·.path.length)).sum

theorem totalSteps_setSess (s : Session) (x : SessStatus) : totalSteps { s with status := x } = totalSteps s := rfl
theorem totalSteps_setPushed (s : Session) (p : Option Pushed) : totalSteps { s with pushed := p } = totalSteps s := rfl

theorem totalSteps_of_pf {s s' : Session} (h : pf s' = pf s) : totalSteps s' = totalSteps s := by
  have : ∀ s, totalSteps s = ((pf s).map (·.2.length)).sum := fun s => by simp [totalSteps, pf, Function.comp_def]
  rw [this, h, this]

theorem totalSteps_failRun (st : St) (r : Nat) (step : Option StepRef) :
    totalSteps (failRun st r step).s = totalSteps st.s :=
  totalSteps_of_pf (pf_failRun st r step)

theorem totalSteps_modifyRun_same (s : Session) (r : Nat) {f : Run → Run} (h : ∀ x, (f x).path.length = x.path.length) :
    totalSteps (modifyRun s r f) = totalSteps s :=
  congrArg List.sum (map_modifyRun h s r)

theorem totalSteps_logEvents (st : St) (r : Nat) (step : Option StepRef) (ks : List EvK) :
    totalSteps (logEvents st r step ks).s = totalSteps st.s :=
  totalSteps_of_pf (pf_logEvents st r step ks)

theorem totalSteps_failSession (st : St) (w : Nat) : totalSteps (failSession st w).s = totalSteps st.s :=
  totalSteps_of_pf (pf_failSession st w)

theorem totalSteps_applyResume (orc : Oracle) (st : St) (r : Nat) (step : StepRef) (k : ResumeKind) :
    totalSteps (applyResume orc st r step k).s = totalSteps st.s :=
  totalSteps_of_pf (pf_applyResume orc st r step k)

theorem PickOut.steps
    (h : PickOut st r node step (.ok st' e)) : totalSteps st'.s = totalSteps st.s := by
  cases h with
  | noCategory => exact totalSteps_failRun _ _ _
  | noExit => exact totalSteps_modifyRun_same _ _ fun _ => by simp
  | exit => exact totalSteps_modifyRun_same _ _ fun _ => by simp

theorem FindOut.ok_steps
    (h : FindOut a st r (.ok st' e)) : totalSteps st'.s = totalSteps st.s := by
  cases h with
  | skip => rfl
  | pick _ _ _ h => exact h.steps.trans (totalSteps_logEvents _ _ _ _)

theorem sum_map_modify_le {α : Type} (l : List α) (r : Nat) {f : α → α} {g : α → Nat} {k : Nat}
    (h : ∀ x, g (f x) ≤ g x + k) : ((l.modify r f).map g).sum ≤ (l.map g).sum + k := by
  induction l generalizing r with
  | nil => simp
  | cons x l ih =>
    cases r with
    | zero => simp only [List.modify_zero_cons, List.map_cons, List.sum_cons]; have := h x; omega
    | succ r => simp only [List.modify_succ_cons, List.map_cons, List.sum_cons]; have := ih r; omega

theorem totalSteps_createStep (st : St) (r nodeIdx : Nat) :
    totalSteps (createStep st r nodeIdx).1.s ≤ totalSteps st.s + 1 :=
  sum_map_modify_le _ _ fun x => by simp

theorem totalSteps_visited (st : St) (r d : Nat) (vc : VisitChoice) :
    totalSteps (visited st r d vc).s ≤ totalSteps st.s + 1 :=
  totalSteps_of_pf (pf_visited st r d vc) ▸ totalSteps_createStep st r d

theorem VisitOut.steps {step0 step : StepRef}
    (h : VisitOut st r node step0 (.ok st' step e)) : totalSteps st'.s = totalSteps st.s := by
  cases h with
  | stay => rfl
  | failed => exact totalSteps_of_pf (pf_exitRun _ _ _)
  | wait => exact totalSteps_of_pf (pf_setStatus _ _ _)
  | pick _ h => exact h.steps

/-- the step invariant at the head of the loop; `T0` is the number of steps the call found -/
structure LSteps (o : Opts) (T0 : Nat) (l : Loop) : Prop where
  counted : (totalSteps l.st.s : Int) ≤ T0 + l.n
  bound : totalSteps l.st.s ≤ T0 + maxBudget o

abbrev ResSteps (B : Nat) : Result → Prop := OnRet fun st => totalSteps st.s ≤ B

theorem LSteps.same {T0 : Nat} {l l' : Loop} (h : LSteps o T0 l) (hn : l.n ≤ l'.n)
    (hs : totalSteps l'.st.s = totalSteps l.st.s) : LSteps o T0 l' :=
  ⟨by have := h.counted; omega, hs ▸ h.bound⟩

theorem LSteps.room {T0 : Nat} (h : LSteps o T0 l) (hle : ¬ l.n + 1 > o.maxSteps) : totalSteps l.st.s + 1 ≤ T0 + maxBudget o := by
  have := h.counted
  have := le_maxBudget o
  omega

theorem totalSteps_pushRun (s : Session) (flow : Nat) (parent : Option Nat) :
    totalSteps (pushRun s flow parent) = totalSteps s := by simp [totalSteps, pushRun]

theorem DestOut.steps {x : Loop × Option Nat} (h : DestOut a l x) : totalSteps x.1.st.s = totalSteps l.st.s := by
  cases h with
  | push p _ s0 hs0 =>
    exact (totalSteps_pushRun ..).trans (totalSteps_of_pf ((congrArg pf hs0).trans (pf_ite_exitAll _ _)))
  | follow => rfl
  | idle => rfl

theorem NoDestOut.steps {T0 : Nat}
    (h : NoDestOut a l cur res) (hl : LSteps o T0 l) : IterPost (LSteps o T0) (ResSteps (T0 + maxBudget o)) res := by
  cases h with
  | ended => exact hl.bound
  | childFailed => exact hl.same (Int.le_refl _) (totalSteps_failRun _ _ _)
  | noFlow => exact hl.same (Int.le_refl _) (totalSteps_failRun _ _ _)
  | findErr _ _ h => exact hl.same (Int.le_refl _) ((totalSteps_failRun _ _ _).trans (totalSteps_of_pf h.err_pf))
  | findOk _ _ h => exact hl.same (Int.le_refl _) h.ok_steps
  | tapeErr => trivial

theorem GoDestOut.steps {T0 : Nat} {cur d : Nat}
    (h : GoDestOut a o l cur d res) (hl : LSteps o T0 l) : IterPost (LSteps o T0) (ResSteps (T0 + maxBudget o)) res := by
  cases h with
  | limit => exact hl.same (Int.le_add_one (Int.le_refl _)) (totalSteps_failRun _ _ _)
  | noNode => exact hl.bound
  | visitErr h => exact Nat.le_trans (totalSteps_visited ..) (hl.room h)
  | waits h _ _ hv => exact Nat.le_trans (hv.steps ▸ totalSteps_visited ..) (hl.room h)
  | next h _ _ hv =>
    have hs := hv.steps ▸ totalSteps_visited l.st cur d _
    have := hl.counted
    exact ⟨by dsimp only; omega, Nat.le_trans hs (hl.room h)⟩
  | tapeErr => trivial

theorem iter_steps (a : Assets) (o : Opts) (orc : Oracle) (T0 : Nat) (l : Loop) (h : LSteps o T0 l) :
    IterPost (LSteps o T0) (ResSteps (T0 + maxBudget o)) (iter a o orc l) := by
  have same : ∀ {x}, DestOut a l x → LSteps o T0 x.1 := fun hd => h.same (Int.le_of_eq hd.n.symm) hd.steps
  exact iter_elim trivial
    (fun hd _ h => h.steps ((same hd).same (Int.le_refl _) (totalSteps_of_pf (pf_finished _ _))))
    (fun hd _ h => h.steps (same hd))

theorem loop_steps (a : Assets) (o : Opts) (orc : Oracle) (fuel : Nat) (l : Loop) {T0 : Nat} (hn : l.n = 0)
    (h0 : totalSteps l.st.s = T0) : ResSteps (T0 + maxBudget o) (loop a o orc fuel l) :=
  loop_inv (iter_steps a o orc T0) trivial fuel l ⟨by omega, by omega⟩

theorem start_steps (a : Assets) (o : Opts) (orc : Oracle) : ResSteps (maxBudget o) (start a o orc) := by
  rw [start_eq]
  split
  · exact Nat.zero_le _
  · exact Nat.zero_add (maxBudget o) ▸ loop_steps a o orc _ (startLoop orc) rfl rfl

theorem resume_steps (a : Assets) (o : Opts) (orc : Oracle) (s : Session) (k : ResumeKind) :
    ResSteps (totalSteps s + maxBudget o) (resume a o orc s k) := by
  have hr := resume_out a o orc s k
  generalize resume a o orc s k = res at hr
  cases hr with
  | rejected => trivial
  | tapeErr => trivial
  | unrecoverable w => exact Nat.le_add_right_of_le (Nat.le_of_eq (totalSteps_failSession _ _))
  | findErr _ _ h =>
    exact Nat.le_add_right_of_le (Nat.le_of_eq (totalSteps_of_pf
      ((pf_failSession _ _).trans (h.err_pf.trans (pf_applyResume ..)))))
  | loop _ _ h => exact loop_steps a o orc _ _ rfl (h.ok_steps.trans (totalSteps_applyResume ..))

end GoflowModel.Engine
