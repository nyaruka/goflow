import GoflowModel.Props.C05
import GoflowModel.Gen.EvalText
/-!
# C05 — evaluated text is cut to the limit whatever the evaluation reported

`Props/C05` bounds what the truncation returns.  That every text `EvaluateTemplateText` hands back
*went through* it — also when the evaluation reported an error and the caller uses the partial text
all the same, as the actions that create messages do — is read off the function itself: its
statements, regenerated from flows/runs/run.go, are the ones modelled, and its only `return` comes
after the truncation.
-/
namespace GoflowModel.Props.C05Text
open GoflowModel.Truncate

/-- `run.EvaluateTemplateText`: the evaluated text (whole or partial) and whether the evaluation failed
come from the evaluator; an error is logged, warnings are logged, the text is cut when asked to, and text
and success are returned -/
def evaluateTemplateText (evaluated : List Char) (failed truncate : Bool) (maxTemplateChars : Nat) : Option (List Char) × Bool :=
  (if truncate then templateTruncate evaluated maxTemplateChars else some evaluated, !failed)

/-- **The text handed back is within the limit — also when the evaluation failed** (and no limit makes it panic) -/
theorem evaluated_text_bounded (evaluated : List Char) (failed : Bool) (maxTemplateChars : Int) :
    ∃ t, (evaluateTemplateText evaluated failed true (clampLimit maxTemplateChars)).1 = some t ∧ t.length ≤ clampLimit maxTemplateChars :=
  C05.template_bounded evaluated maxTemplateChars

/-- **The function's statements are the ones modelled**: evaluation, the two logging statements, the
truncation under `if truncate` with its two branches, and one `return` — the last statement, at the top level. -/
theorem evaluate_template_text_as_modelled :
    Gen.EvalText.statements =
      [(0, "ctx := types.NewXObject(r.RootContext(r.session.MergedEnvironment()))"),
       (0, "value, warnings, err := r.session.Engine().Evaluator().Template(r.session.MergedEnvironment(), ctx, template, escaping)"),
       (0, "if err != nil"),
       (1, "log(events.NewError(err))"),
       (0, "for range warnings"),
       (1, "log(events.NewWarning(w))"),
       (0, "if truncate"),
       (1, "max := r.Session().Engine().Options().MaxTemplateChars"),
       (1, "if max >= 3"),
       (2, "value = stringsx.TruncateEllipsis(value, max)"),
       (1, "else"),
       (2, "value = stringsx.Truncate(value, max)"),
       (0, "return value, err == nil")] := rfl

end GoflowModel.Props.C05Text
