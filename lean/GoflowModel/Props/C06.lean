import GoflowModel.Lemmas.GroupLoops
import GoflowModel.Gen.Reeval
/-!
# C06 — Query-based group membership always matches the contact

`reevaluate` = `modifiers.ReevaluateGroups` (`Contact.ReevaluateQueryBasedGroups` followed by the
clearing of a non-active contact's groups).  `matches_ g` is the outcome of
`Group.CheckQueryBasedMembership` for the contact **as it is now** (an input: the ContactQL
evaluator of C15 applied to the contact); for a non-active contact it is false for every group.
-/
namespace GoflowModel.Props.C06
open GoflowModel.Contact

/-- the invariant: membership in every query-based group is exactly what its query says -/
def GroupInv (m : Nat → Bool) (qgroups : List Nat) (c : Contact) : Prop :=
  ∀ g ∈ qgroups, (g ∈ c.groups ↔ m g = true)

theorem reevaluate_contact (isQuery m : Nat → Bool) (qs : List Nat) (c : Contact) :
    (reevaluate isQuery m qs c).contact =
      { c with groups := if c.status ≠ .active then [] else (reevalLoop m c.groups qs).1 } := by
  unfold reevaluate
  simp only [apply_ite Out.contact, ite_self, apply_ite Prod.fst]

theorem reevaluate_active (isQuery m : Nat → Bool) (qs : List Nat) (c : Contact) (ha : c.status = .active) :
    reevaluate isQuery m qs c =
      if (reevalLoop m c.groups qs).2.1 ≠ [] ∨ (reevalLoop m c.groups qs).2.2 ≠ [] then
        ⟨{ c with groups := (reevalLoop m c.groups qs).1 },
          [.groupsChanged (reevalLoop m c.groups qs).2.1 (reevalLoop m c.groups qs).2.2], true⟩
      else ⟨{ c with groups := (reevalLoop m c.groups qs).1 }, [], false⟩ := by
  simp [reevaluate, ha]

/-- **Re-evaluation establishes the invariant**, from any starting membership (including one that
is already wrong), for an active contact … -/
theorem reevaluate_establishes_active (isQuery m : Nat → Bool) (qs : List Nat)
    (c : Contact) (ha : c.status = .active) :
    GroupInv m qs (reevaluate isQuery m qs c).contact := by
  intro g hg
  rw [reevaluate_contact, if_neg (not_not_intro ha), (reevalLoop_spec m c.groups qs g).1]
  cases m g <;> simp [hg]

/-- … and a non-active contact (for which no query matches) ends in no group at all, static
groups included. -/
theorem reevaluate_nonactive_leaves_all (isQuery m : Nat → Bool) (qs : List Nat) (c : Contact)
    (hna : c.status ≠ .active) :
    (reevaluate isQuery m qs c).contact.groups = [] := by
  rw [reevaluate_contact, if_pos hna]

/-- `reevaluate_events_replay_active` without its hypothesis `hq : qs.Nodup` -/
theorem mem_replay_reevaluate (isQuery m : Nat → Bool) (qs : List Nat) (c : Contact) (ha : c.status = .active)
    (x : Nat) :
    x ∈ (replayAll c (reevaluate isQuery m qs c).events).groups ↔ x ∈ (reevaluate isQuery m qs c).contact.groups := by
  have hs := reevalLoop_spec m c.groups qs x
  rw [reevaluate_active isQuery m qs c ha]
  -- with the three memberships spelt out both sides are the same proposition about `x ∈ c.groups`, `x ∈ qs` and `m x`
  split
  · simp only [replayAll, List.foldl_cons, List.foldl_nil, replay, List.mem_append, List.mem_filter,
      Bool.not_eq_true', List.contains_eq_mem, decide_eq_false_iff_not, hs]
    grind
  · next hnone =>
    have ⟨hadd, hrem⟩ := not_or.1 hnone
    rw [Decidable.not_not.1 hadd, Decidable.not_not.1 hrem] at hs
    simp only [replayAll, List.foldl_nil, hs.1]
    grind

/-- **Every membership change made is reported**: replaying the emitted event over the groups as
they were gives exactly the new membership (as a set), for an active contact. -/
theorem reevaluate_events_replay_active (isQuery m : Nat → Bool) (qs : List Nat) (hq : qs.Nodup)
    (c : Contact) (ha : c.status = .active) (x : Nat) :
    x ∈ (replayAll c (reevaluate isQuery m qs c).events).groups ↔
    x ∈ (reevaluate isQuery m qs c).contact.groups :=
  mem_replay_reevaluate isQuery m qs c ha x

/-- modified ⇔ an event was emitted ⇔ some membership changed -/
theorem reevaluate_modified_iff_event (isQuery m : Nat → Bool) (qs : List Nat) (c : Contact) :
    (reevaluate isQuery m qs c).modified = true ↔ (reevaluate isQuery m qs c).events ≠ [] := by
  have {p : Prop} [Decidable p] {a b : Contact} {e : Ev} :
      (if p then (⟨a, [e], true⟩ : Out) else ⟨b, [], false⟩).modified = true ↔
      (if p then (⟨a, [e], true⟩ : Out) else ⟨b, [], false⟩).events ≠ [] := by split <;> simp
  exact this

/-! ## Every hand-back

What the engine does to the contact in one call (`NewSession` / `Resume`), as far as groups are
concerned: the trigger or resume changes the contact in some way, **then the groups are
re-evaluated** (`session.start`, `session.tryToResume`: unconditional calls, pinned below from the
source); then any number of modifiers are applied by actions, each through `modifiers.Apply`, which
**re-evaluates when the modifier reports a change** — and a modifier that reports no change has not
changed the contact (C03).  `M c g` is what group `g`'s query says of contact `c`
(`Group.CheckQueryBasedMembership`: false for a contact that is not active); queries cannot refer to
group membership itself (`group` is not allowed in the query of a group), so changing the groups
does not change `M`. -/

/-- **The re-evaluation sites are the ones `handBack` assumes** (census of flows/** regenerated from the
source on every run): `start` re-evaluates unconditionally right after the trigger initialised the
session; `tryToResume` unconditionally right after `resume.Apply`; `visitNode` after a trigger
initialised a run (a message trigger sets `last_seen_on`); `modifiers.Apply` whenever the modifier
reported a change; the two remaining rows are the helpers themselves.  A re-evaluation that is moved
under a condition, behind another statement or dropped changes this table. -/
theorem reevaluation_sites_as_modelled :
    Gen.Reeval.sites = [
      ("flows/engine/session.go", "start", [], "if err := s.trigger.Initialize(s, sprint.logEvent); err != nil { return sprint, err }"),
      ("flows/engine/session.go", "tryToResume", [], "resume.Apply(waitingRun, logEvent)"),
      ("flows/engine/session.go", "visitNode", ["if trigger != nil"], "if err := trigger.InitializeRun(run, logEvent); err != nil { return step, nil, \"\", nil }"),
      ("flows/engine/session.go", "ensureQueryBasedGroups", [], "if s.contact == nil { return }"),
      ("flows/modifiers/base.go", "Apply", ["if modified"], "-"),
      ("flows/modifiers/base.go", "ReevaluateGroups", [], "-")] :=
  rfl

/-- what one modifier application did: the contact after it and the flag it returned -/
structure ModStep where
  apply : Contact → Contact
  modified : Contact → Bool

/-- `modifiers.Apply` -/
def applyMod (isQuery : Nat → Bool) (M : Contact → Nat → Bool) (qs : List Nat) (c : Contact) (s : ModStep) : Contact :=
  if s.modified c then (reevaluate isQuery (M (s.apply c)) qs (s.apply c)).contact else s.apply c

/-- one call of the engine: state change by the trigger / resume, re-evaluation, modifiers -/
def handBack (isQuery : Nat → Bool) (M : Contact → Nat → Bool) (qs : List Nat) (stateChange : Contact → Contact)
    (mods : List ModStep) (c : Contact) : Contact :=
  mods.foldl (applyMod isQuery M qs) (reevaluate isQuery (M (stateChange c)) qs (stateChange c)).contact

/-- the invariant for a contact of any status -/
def Inv (M : Contact → Nat → Bool) (qs : List Nat) (c : Contact) : Prop := GroupInv (M c) qs c

theorem reevaluate_inv (isQuery : Nat → Bool) (M : Contact → Nat → Bool) (qs : List Nat)
    (hM : ∀ c gs, M { c with groups := gs } = M c) (hna : ∀ c g, c.status ≠ .active → M c g = false) (c : Contact) :
    Inv M qs (reevaluate isQuery (M c) qs c).contact := by
  unfold Inv
  rw [show M (reevaluate isQuery (M c) qs c).contact = M c by rw [reevaluate_contact]; exact hM c _]
  by_cases ha : c.status = .active
  · exact reevaluate_establishes_active isQuery (M c) qs c ha
  · intro g _
    rw [reevaluate_nonactive_leaves_all isQuery (M c) qs c ha, hna c g ha]
    exact ⟨nofun, nofun⟩

/-- `handBack_inv` without its hypothesis `hq : qs.Nodup` -/
theorem handBack_inv_any_qs (isQuery : Nat → Bool) (M : Contact → Nat → Bool) (qs : List Nat)
    (hM : ∀ c gs, M { c with groups := gs } = M c) (hna : ∀ c g, c.status ≠ .active → M c g = false)
    (stateChange : Contact → Contact) (mods : List ModStep)
    (hmods : ∀ s ∈ mods, ∀ c, s.modified c = false → s.apply c = c) (c : Contact) :
    Inv M qs (handBack isQuery M qs stateChange mods c) :=
  mods.foldlRecOn (motive := Inv M qs) _ (reevaluate_inv isQuery M qs hM hna (stateChange c)) fun c0 h0 s hs => by
    unfold applyMod
    cases hmod : s.modified c0 with
    | true => exact reevaluate_inv isQuery M qs hM hna (s.apply c0)
    | false => rw [hmods s hs c0 hmod]; exact h0

/-- **Whenever the engine hands the session back the invariant holds** — whatever the contact and
its stored membership were, whatever the trigger or resume did to it, whatever modifiers the
actions applied — provided a modifier that reports no change made none. -/
theorem handBack_inv (isQuery : Nat → Bool) (M : Contact → Nat → Bool) (qs : List Nat) (hq : qs.Nodup)
    (hM : ∀ c gs, M { c with groups := gs } = M c) (hna : ∀ c g, c.status ≠ .active → M c g = false)
    (stateChange : Contact → Contact) (mods : List ModStep)
    (hmods : ∀ s ∈ mods, ∀ c, s.modified c = false → s.apply c = c) (c : Contact) :
    Inv M qs (handBack isQuery M qs stateChange mods c) :=
  handBack_inv_any_qs isQuery M qs hM hna stateChange mods hmods c

/-- the hypothesis about modifiers is needed: a modifier that changes the name without saying so
leaves a name-based group wrong (the model's counterpart of a dropped re-evaluation) -/
example :
    let M : Contact → Nat → Bool := fun c _ => c.status == .active && c.name == ['B']
    let c : Contact := ⟨['A'], 0, .active, 0, [], [], [], none, none⟩
    let s : ModStep := ⟨fun c => { c with name := ['B'] }, fun _ => false⟩
    ¬ Inv M [7] (handBack (fun _ => true) M [7] id [s] c) := by
  intro M c s
  unfold Inv GroupInv
  decide

end GoflowModel.Props.C06
