import GoflowModel.Lemmas.Dec
import GoflowModel.Lemmas.DateText
import GoflowModel.Gen.Consts
/-!
# C13 — Values survive their stored text and JSON forms

Numbers (this file, proved): every decimal the implementation can hold renders
(`Decimal.String()`) to text that `newXNumberFromString` accepts and converts back to a number
with the same normal form, for every sign, coefficient and exponent (`num_roundtrip`); renderings are
canonical in both directions — equal renderings mean equal numbers (`render_injective`) and equal
numbers render equally (`render_canonical`) — which is what `=` on numbers relies on.
Dates and times (this file, proved, over the models of `envs.DateTimeFromString` and `XDateTime.Format` in
`Basic/DateText`): the text of a datetime in each of the twelve environment formats, of a date, of a time of
day, and the ISO form are read back as the value they were written from (`datetime_roundtrip`,
`date_roundtrip`, `time_roundtrip`, `iso_roundtrip`).  JSON is in `Props/C13Json`.
-/
namespace GoflowModel.Props.C13
open GoflowModel.Dec

/-- a well-formed non-zero coefficient -/
structure NZ (ds : List Char) : Prop where
  ne : ds ≠ []
  dig : ∀ c ∈ ds, isDigit c = true
  head : ds.head? ≠ some '0'

theorem NZ.trimLeading_eq {ds : List Char} (h : NZ ds) : trimLeadingZeros ds = ds :=
  dropWhile_zero_of_head_ne ds h.head

theorem NZ.trimTrailing_ne_nil {ds : List Char} (h : NZ ds) : trimTrailingZeros ds ≠ [] := by
  intro e
  have := (trimTrailing_eq_nil_iff ds).1 e
  cases ds with
  | nil => exact h.ne rfl
  | cons c ds =>
    have hh := h.head
    rw [this] at hh
    simp [List.replicate_succ] at hh

theorem NZ.append {ds : List Char} (h : NZ ds) (l : List Char) (hl : ∀ c ∈ l, isDigit c = true) : NZ (ds ++ l) := by
  refine ⟨by simp [h.ne], ?_, ?_⟩
  · intro c hc; exact (List.mem_append.1 hc).elim (h.dig c) (hl c)
  · rw [head?_append_of_ne_nil h.ne]; exact h.head

theorem norm_nz (neg : Bool) (ds : List Char) (e : Int) (h : NZ ds) :
    norm ⟨neg, ds, e⟩ = ⟨neg, trimTrailingZeros ds, e + trailingZeros ds⟩ := by
  simp only [norm, h.trimLeading_eq, h.ne, if_false]

theorem render_sign (neg : Bool) {ds : List Char} (h : NZ ds) (e : Int) :
    render ⟨neg, ds, e⟩ = (if neg then ['-'] else []) ++ render ⟨false, ds, e⟩ := by
  cases neg <;> simp [render, h.trimLeading_eq, h.ne]

theorem render_pointed (neg : Bool) {ds : List Char} (h : NZ ds) {e : Int} (a b : Nat) (hab : (a : Int) - b = e) :
    render ⟨neg, ds, e⟩ = (if neg then ['-'] else []) ++ pointed (ds ++ List.replicate a '0') b := by
  -- only the difference counts, so take the smaller of `a`, `b` to be zero
  obtain ⟨j, rfl, rfl⟩ : ∃ j, a = e.toNat + j ∧ b = (-e).toNat + j := ⟨min a b, by omega, by omega⟩
  rw [← List.replicate_append_replicate, ← List.append_assoc, pointed_append_zeros, render_sign neg h]
  congr 1
  simp only [render, Bool.false_eq_true, false_and, if_false, h.trimLeading_eq, h.ne]
  by_cases he : e ≥ 0
  · rw [show (-e).toNat = 0 by omega, pointed_zero _ (by simp [h.ne]), if_pos he]
  · rw [show e.toNat = 0 by omega, List.replicate_zero, List.append_nil]
    generalize (-e).toNat = k
    simp only [he, if_false, pointed]
    by_cases hl : ds.length > k
    · rw [show k + 1 - ds.length = 0 by omega]
      simp [hl]
    · -- fewer digits than places: one zero before the point, the rest of the padding after it
      rw [show k + 1 - ds.length = (k - ds.length) + 1 by omega, List.replicate_succ]
      have : (List.replicate (k - ds.length) '0' ++ ds).length = k := by simp; omega
      simp [hl, this]

/-- **Round trip of a non-zero number**: rendering and parsing preserves the normal form. -/
theorem num_roundtrip_nz (neg : Bool) (ds : List Char) (e : Int) (h : NZ ds) :
    ∃ p, parse (render ⟨neg, ds, e⟩) = some p ∧ norm p = norm ⟨neg, ds, e⟩ := by
  have hz := h.append _ (isDigit_of_mem_zeros (n := e.toNat))
  obtain ⟨q, hq, hhead, hn⟩ := parseBody_pointed hz.dig (-e).toNat
  rw [render_pointed neg h e.toNat (-e).toNat (by omega)]
  refine ⟨_, parse_signed neg hq hhead, ?_⟩
  rw [hn, norm_append_zeros]; congr 2; omega

theorem render_zero (neg : Bool) (e : Int) : render ⟨neg, ['0'], e⟩ = ['0'] := by
  have h0 : trimLeadingZeros ['0'] = [] := rfl
  simp only [render, h0, ne_eq, not_true_eq_false, and_false, if_false]
  by_cases he : e ≥ 0
  · simp [he]
  · simp only [he, if_false]
    have hk : (-e).toNat ≥ 1 := by omega
    generalize (-e).toNat = k at hk
    have hlen : ¬ (['0'] : List Char).length > k := by simp; omega
    simp only [hlen, if_false]
    have : ∀ n, trimTrailingZeros (List.replicate n '0' ++ ['0']) = [] := fun n => by
      rw [← List.replicate_succ']; exact trimTrailing_all_zero (n + 1)
    simp [this]

/-- **Round trip of zero**: every representation of zero renders `0`, which parses back to zero. -/
theorem num_roundtrip_zero (e : Int) :
    render ⟨false, ['0'], e⟩ = ['0'] ∧ parse ['0'] = some ⟨false, ['0'], 0⟩ ∧
    norm ⟨false, ['0'], 0⟩ = norm ⟨false, ['0'], e⟩ :=
  ⟨render_zero false e, by decide, by simp [norm, trimLeadingZeros]⟩

theorem render_zeros_shift (neg : Bool) {c : List Char} (hc : NZ c) (i : Nat) (e : Int) :
    render ⟨neg, c ++ List.replicate i '0', e⟩ = render ⟨neg, c, e + i⟩ := by
  rw [render_pointed neg (hc.append _ isDigit_of_mem_zeros) e.toNat (-e).toNat (by omega),
    render_pointed neg hc (i + e.toNat) (-e).toNat (by omega), List.append_assoc, List.replicate_append_replicate]

theorem NZ.trimTrailing {ds : List Char} (h : NZ ds) : NZ (trimTrailingZeros ds) := by
  refine ⟨h.trimTrailing_ne_nil, trimTrailing_digits ds h.dig, ?_⟩
  have hh := h.head
  rwa [trimTrailing_decomp ds, head?_append_of_ne_nil h.trimTrailing_ne_nil] at hh

theorem render_norm (d : Dec) (hd : NZ d.digits) : render d = render (norm d) := by
  obtain ⟨neg, ds, e⟩ := d
  rw [norm_nz neg ds e hd, ← render_zeros_shift neg hd.trimTrailing, ← trimTrailing_decomp ds]

theorem NZ.wellFormed {d : Dec} (h : NZ d.digits) : WellFormed d :=
  ⟨h.ne, h.dig, fun h0 => absurd h0 h.head, fun h1 => absurd (by rw [h1]; rfl) h.head⟩

theorem wellFormed_cases {d : Dec} (h : WellFormed d) : (∃ e, d = ⟨false, ['0'], e⟩) ∨ NZ d.digits := by
  obtain ⟨hne, hdig, hhead, hzero⟩ := h
  by_cases hz : d.digits.head? = some '0'
  · obtain ⟨neg, ds, e⟩ := d
    have h0 := hhead hz
    have hn := hzero h0
    simp only at h0 hn; subst h0; subst hn
    exact Or.inl ⟨e, rfl⟩
  · exact Or.inr ⟨hne, hdig, hz⟩

/-- **Round trip of every number** the implementation can hold. -/
theorem num_roundtrip (d : Dec) (h : WellFormed d) :
    ∃ p, parse (render d) = some p ∧ norm p = norm d := by
  rcases wellFormed_cases h with ⟨e, rfl⟩ | hnz
  · obtain ⟨hr, hp, hn⟩ := num_roundtrip_zero e
    exact ⟨_, by rw [hr]; exact hp, hn⟩
  · exact num_roundtrip_nz d.neg d.digits d.exp hnz

/-- the hypotheses are satisfiable: `-12300 × 10⁻²` renders `-123` -/
example : WellFormed ⟨true, "12300".toList, -2⟩ ∧ render ⟨true, "12300".toList, -2⟩ = "-123".toList := by
  refine ⟨⟨by decide, by decide, by decide, by decide⟩, by decide⟩

theorem render_eq_iff (a b : Dec) (ha : WellFormed a) (hb : WellFormed b) : render a = render b ↔ norm a = norm b := by
  constructor
  · intro h
    obtain ⟨p, hp, hpn⟩ := num_roundtrip a ha
    obtain ⟨q, hq, hqn⟩ := num_roundtrip b hb
    rw [h, hq] at hp
    cases hp
    rw [← hpn, ← hqn]
  · intro h
    -- zero has no digits in normal form, a non-zero number has some
    have hz : ∀ e, (norm ⟨false, ['0'], e⟩).digits = [] := fun e => by simp [norm, trimLeadingZeros]
    have hnz : ∀ d : Dec, NZ d.digits → (norm d).digits ≠ [] := fun d hd => by
      rw [norm_nz d.neg d.digits d.exp hd]; exact hd.trimTrailing_ne_nil
    rcases wellFormed_cases ha with ⟨ea, rfl⟩ | hna <;> rcases wellFormed_cases hb with ⟨eb, rfl⟩ | hnb
    · rw [(num_roundtrip_zero ea).1, (num_roundtrip_zero eb).1]
    · exact absurd (h ▸ hz ea) (hnz b hnb)
    · exact absurd (h ▸ hz eb) (hnz a hna)
    · rw [render_norm a hna, render_norm b hnb, h]

/-- **Equal numbers render equally** (what `=` relies on): two non-zero numbers with the same
normal form have the same text. -/
theorem render_canonical (a b : Dec) (ha : NZ a.digits) (hb : NZ b.digits) (h : norm a = norm b) :
    render a = render b :=
  (render_eq_iff a b ha.wellFormed hb.wellFormed).2 h

/-- **Equal renderings mean equal numbers**: comparing the canonical texts never identifies two
different numbers (the converse, that equal numbers render equally, is checked on the
implementation by monitor `M-eq-render`). -/
theorem render_injective (a b : Dec) (ha : WellFormed a) (hb : WellFormed b) (h : render a = render b) :
    norm a = norm b :=
  (render_eq_iff a b ha hb).1 h

section DateTime
open GoflowModel.DateText

theorem atoi_nil : atoi [] = 0 := rfl

/-- the value a time format can carry: seconds only when it prints them, never a fraction -/
def atPrecision (tf : TF) (t : TimeOfDay) : TimeOfDay :=
  match tf with
  | .hm | .hmAmPm => ⟨t.h, t.mi, 0, 0⟩
  | .hms | .hmsAmPm => ⟨t.h, t.mi, t.s, 0⟩

def timeInRange (t : TimeOfDay) : Prop := t.h < 24 ∧ t.mi < 60 ∧ t.s < 60
def dateInRange (x : Date) : Prop := 1 ≤ x.y ∧ x.y ≤ 9999 ∧ x.valid = true

theorem parseTime_fmtTime (tf : TF) (t : TimeOfDay) (ht : timeInRange t) :
    parseTime (' ' :: fmtTime tf t) = some (atPrecision tf t) := by
  obtain ⟨hh, hm, hs⟩ := ht
  obtain ⟨hH, hlen, ah⟩ := hour12Digits_spec t.h
  have h24 {s} (hs : s < 60) := timeOfFields_of_lt (hourAmPm_nil t.h) hh hm hs (frac := []) rfl
  have h12 {s} (hs : s < 60) :=
    (map_lower_ampm t.h).symm ▸ timeOfFields_of_lt (hourAmPm_hour12 t.h hh) hh hm hs (frac := []) rfl
  have ah24 := atoi_pad2 t.h (by omega)
  have am := atoi_pad2 t.mi (by omega)
  have as := atoi_pad2 t.s (by omega)
  -- the fuel `parseTime` gives the matcher, where the hour has one digit or two
  have hfuel {l a : List Char} : 3 ≤ (' ' :: (l ++ ' ' :: a)).length + 1 := by
    rw [List.length_cons, List.length_append, List.length_cons]; omega
  cases tf with
  | hm =>
    suffices hfind : findAll patternTime _ none _ = [([(2, pad2 t.mi), (1, pad2 t.h)], [])] from
      parseTime_of_find hfind ah24 am atoi_nil (h24 (by omega))
    exact findAll_hm (by simp [isDigit_dg])
  | hms =>
    suffices hfind : findAll patternTime _ none _ = [([(3, pad2 t.s), (2, pad2 t.mi), (1, pad2 t.h)], [])] from
      parseTime_of_find hfind ah24 am as (h24 hs)
    exact findAll_hms (by simp [isDigit_dg])
  | hmAmPm =>
    suffices hfind : findAll patternTime _ none _ = [([(5, ampm t.h), (2, pad2 t.mi), (1, hour12Digits t.h)], [])] from
      parseTime_of_find hfind ah am atoi_nil (h12 (by omega))
    exact findAll_hma hfuel hH hlen (by simp [isDigit_dg]) (ampm_spec t.h)
  | hmsAmPm =>
    suffices hfind : findAll patternTime _ none _ =
        [([(5, ampm t.h), (3, pad2 t.s), (2, pad2 t.mi), (1, hour12Digits t.h)], [])] from
      parseTime_of_find hfind ah am as (h12 hs)
    exact findAll_hmsa hfuel hH hlen (by simp [isDigit_dg]) (ampm_spec t.h)

/-- **Round trip of a date** through each environment date format (and `XDate.Render`, which is
the `YYYY-MM-DD` one). -/
theorem date_roundtrip (df : DF) (cy : Nat) (x : Date) (hx : dateInRange x) :
    parseDate df cy (fmtDate df x) = some (x, []) := by
  have htrim : trim (fmtDate df x ++ []) = fmtDate df x ++ [] :=
    trim_eq_self _ (fmtDate_head df x _) ((List.append_nil _).symm ▸ fmtDate_last df x)
  simpa using parseDate_fmtDate df cy x [] (Nat.lt_succ_of_le hx.2.1) hx.2.2 rfl htrim

/-- `XTime.Render`: `tt:mm:ss.ffffff` -/
def fmtTimeMicro (t : TimeOfDay) : List Char :=
  pad2 t.h ++ ':' :: pad2 t.mi ++ ':' :: pad2 t.s ++ '.' ::
    [dg (t.nanos / 1000 / 100000), dg (t.nanos / 1000 / 10000), dg (t.nanos / 1000 / 1000), dg (t.nanos / 1000 / 100),
     dg (t.nanos / 1000 / 10), dg (t.nanos / 1000)]

/-- **Round trip of a time of day** through its rendering, to the microsecond. -/
theorem time_roundtrip (t : TimeOfDay) (ht : timeInRange t) (hn : t.nanos < 1000000000) :
    parseTime (fmtTimeMicro t) = some ⟨t.h, t.mi, t.s, t.nanos / 1000 * 1000⟩ := by
  obtain ⟨hh, hm, hs⟩ := ht
  exact parseTime_of_find (findAll_micro (by simp [isDigit_dg])) (atoi_pad2 _ (by omega)) (atoi_pad2 _ (by omega))
    (atoi_pad2 _ (by omega))
    (timeOfFields_of_lt (hourAmPm_nil t.h) hh hm hs (fracNanos_micros _ (by omega)))

/-- **Round trip of a datetime through each supported environment format.**  For every date with
a year 1–9999, every time of day and all twelve date-format × time-format pairs (and whatever
the current year is, which only two-digit years consult), the formatted text parses back to the
same date and the same time at the precision the format prints. -/
theorem datetime_roundtrip (df : DF) (tf : TF) (cy : Nat) (x : Date) (t : TimeOfDay)
    (hx : dateInRange x) (ht : timeInRange t) :
    parseDateTime df cy (fmtDateTime df tf x t) = some (.local x (atPrecision tf t)) := by
  rw [fmtDateTime, parseDateTime_fmtDate df cy x _ (Nat.lt_succ_of_le hx.2.1) hx.2.2 (trim_fmtDateTime df tf x t), parseTime_fmtTime tf t ht]
  rfl

/-- the hypotheses are satisfiable, and the statement is not about a default: a leap day at
12:05:09 am in `DD-MM-YYYY h:mm:ss aa` -/
example : dateInRange ⟨2024, 2, 29⟩ ∧ timeInRange ⟨0, 5, 9, 0⟩ ∧
    fmtDateTime .dmy .hmsAmPm ⟨2024, 2, 29⟩ ⟨0, 5, 9, 0⟩ = "29-02-2024 12:05:09 am".toList := by
  refine ⟨by unfold dateInRange; decide, by unfold timeInRange; decide, by decide⟩

/-- outside the guard the real code does lose the value: a year below 1000 printed by the engine
before the repair (`%d`) is not read back — kept as a regression witness of the model's parser -/
example : parseDateTime .dmy 2026 "01-02-476 10:30".toList = none := by decide

/-- **Round trip of a datetime through its ISO rendering** (`XDateTime.Render`, what contact
fields, results and JSON carry): the same date, time of day to the microsecond and offset, in
whatever environment it is read. -/
theorem iso_roundtrip (df : DF) (cy : Nat) (x : Date) (t : TimeOfDay) (off : Int)
    (hx : dateInRange x) (ht : timeInRange t) (hn : t.nanos < 1000000000) (ho : off.natAbs < 24 * 60) :
    parseDateTime df cy (fmtISO x t off) = some (.iso x ⟨t.h, t.mi, t.s, t.nanos / 1000 * 1000⟩ off) := by
  obtain ⟨-, hy2, hv⟩ := hx
  obtain ⟨hh, hmi, hs⟩ := ht
  have hfmt : fmtISO x t off = fmtDate .ymd x ++ 'T' :: (pad2 t.h ++ ':' :: (pad2 t.mi ++ ':' :: (pad2 t.s ++ '.' ::
      dg (t.nanos / 1000 / 100000) :: ([dg (t.nanos / 1000 / 10000), dg (t.nanos / 1000 / 1000), dg (t.nanos / 1000 / 100),
        dg (t.nanos / 1000 / 10), dg (t.nanos / 1000)] ++ zoneText off)))) := by
    simp [fmtISO, fmtDate]
  have htrim : trim (fmtISO x t off) = fmtISO x t off :=
    trim_eq_self _ (hfmt ▸ fmtDate_head .ymd x _) (zoneText_last off _)
  simp only [parseDateTime, htrim]
  rw [hfmt, isoFull_seconds (by omega) hv hh hmi hs (by simp [isDigit_dg]) (fracNanos_micros _ (by omega))
    (zoneText_head_not_digit off) (isoZone_zoneText off ho)]

/-! ### the texts the models were written from (regenerated from the source on every run) -/

theorem source_texts :
    Gen.Consts.decimalRegexp = "^-?(([0-9]+)|([0-9]+\\.[0-9]+)|(\\.[0-9]+))$" ∧
    Gen.Consts.patternDayMonthYear = "\\b([0-9]{1,2})[-.\\\\/_ ]([0-9]{1,2})[-.\\\\/_ ]([0-9]{4}|[0-9]{2})\\b" ∧
    Gen.Consts.patternMonthDayYear = Gen.Consts.patternDayMonthYear ∧
    Gen.Consts.patternYearMonthDay = "\\b([0-9]{4}|[0-9]{2})[-.\\\\/_ ]([0-9]{1,2})[-.\\\\/_ ]([0-9]{1,2})\\b" ∧
    Gen.Consts.patternTime = "\\b(\\d{1,2})(?:(?:\\:)?(\\d{2})(?:\\:(\\d{2})(?:\\.(\\d+))?)?)?\\W*([aApP][mM])?\\b" ∧
    Gen.Consts.iso8601Format = "2006-01-02T15:04:05Z07:00" ∧
    Gen.Consts.iso8601NoSecondsFormat = "2006-01-02T15:04Z07:00" ∧
    Gen.Consts.iso8601DateOnlyFormat = "2006-01-02" ∧
    [Gen.Consts.DateFormatYearMonthDay, Gen.Consts.DateFormatMonthDayYear, Gen.Consts.DateFormatDayMonthYear] =
      ["YYYY-MM-DD", "MM-DD-YYYY", "DD-MM-YYYY"] ∧
    [Gen.Consts.TimeFormatHourMinute, Gen.Consts.TimeFormatHourMinuteAmPm, Gen.Consts.TimeFormatHourMinuteSecond,
      Gen.Consts.TimeFormatHourMinuteSecondAmPm] = ["tt:mm", "h:mm aa", "tt:mm:ss", "h:mm:ss aa"] :=
  ⟨rfl, rfl, rfl, rfl, rfl, rfl, rfl, rfl, rfl, rfl⟩

end DateTime

end GoflowModel.Props.C13
