import GoflowModel.Lemmas.EngineCore
import GoflowModel.Gen.Engine
/-!
# C10 — A rejected resume leaves the session untouched

Because the engine model preserves mutation order, `resume` returns the state *as mutated at
the point of return*; the theorems below are about that state.
-/
namespace GoflowModel.Props.C10
open GoflowModel.Engine

/-- A resume rejected with an engine error — session not waiting (101), no waiting run (102),
resume not accepted by the wait (103) — returns the session **exactly** as it was, with an
empty sprint: no event, no status change, nothing to undo before retrying. -/
theorem reject_untouched (a : Assets) (o : Opts) (orc : Oracle) (s : Session) (k : ResumeKind)
    (c : Nat) (st : St) (h : resume a o orc s k = .engineErr c st) :
    st.s = s ∧ st.sp = [] ∧ (c = 101 ∨ c = 102 ∨ c = 103) := by
  have hr := resume_out a o orc s k
  rw [h] at hr
  generalize hres : Result.engineErr c st = res at hr
  cases hr with
  | rejected c' hc => cases hres; exact ⟨rfl, rfl, hc⟩
  | loop => exact absurd hres.symm loop_no_engineErr
  | _ => cases hres

/-- which resumes are rejected: exactly those the wait does not accept (when resumption is
otherwise possible) -/
theorem rejected_iff_not_accepted (a : Assets) (o : Opts) (orc : Oracle) (s : Session) (k : ResumeKind)
    (w : Nat) (step : StepRef) (node : Node) (wk : WaitKind)
    (hs : s.status = .waiting) (hw : waitingRun s = some w)
    (hf : (getFlow a (((s.runs[w]?).map (·.flow)).getD 0)).isNone = false)
    (hc : ¬ ((countWaits s : Int) ≥ o.maxResumes))
    (hl : pathLocation a s w = some (step, node))
    (hwait : (if node.hasRouter then node.wait else none) = some wk) :
    (∃ st, resume a o orc s k = .engineErr 103 st) ↔ accepts wk k = false := by
  unfold resume
  simp only [hs, hw, hf, hc, hl, hwait]
  simp only [ne_eq, not_true_eq_false, if_false, Bool.false_eq_true]
  cases hacc : accepts wk k with
  | true =>
    simp only [Bool.not_true, Bool.false_eq_true, if_false]
    constructor
    · rintro ⟨st, h⟩
      split at h
      · cases h
      · cases h
      · exact absurd h loop_no_engineErr
    · intro h; cases h
  | false => simp

/-- Conditions that make resumption impossible end the session as failed — never a Go error:
missing flow asset, resume limit reached, a waiting node that no longer exists, a node without
a wait.  The result is the `failSession` state: a failure event on the waiting run and in the
sprint, every run that was active or waiting now failed, session failed. -/
theorem unrecoverable_fails (a : Assets) (o : Opts) (orc : Oracle) (s : Session) (k : ResumeKind) (w : Nat)
    (hs : s.status = .waiting) (hw : waitingRun s = some w)
    (hbad : (getFlow a (((s.runs[w]?).map (·.flow)).getD 0)).isNone = true ∨
            ((countWaits s : Int) ≥ o.maxResumes) ∨
            pathLocation a s w = none ∨
            (∃ step node, pathLocation a s w = some (step, node) ∧ (if node.hasRouter then node.wait else none) = none)) :
    resume a o orc s k = .ok (failSession ⟨s, []⟩ w) := by
  unfold resume
  simp only [hs, hw, ne_eq, not_true_eq_false, if_false]
  by_cases h1 : (getFlow a (((s.runs[w]?).map (·.flow)).getD 0)).isNone = true
  · simp [h1]
  · simp only [h1, Bool.false_eq_true, if_false]
    by_cases h2 : (countWaits s : Int) ≥ o.maxResumes
    · simp [h2]
    · simp only [h2, if_false]
      rcases hbad with h | h | h | ⟨step, node, h, hn⟩
      · exact absurd h h1
      · exact absurd h h2
      · simp [h]
      · simp [h, hn]

theorem failSession_state (st : St) (w : Nat) :
    (failSession st w).s.status = .failed ∧
    (∀ (i : Nat) (x : Run), (failSession st w).s.runs[i]? = some x → x.status ≠ .active ∧ x.status ≠ .waiting) ∧
    (failSession st w).sp = st.sp ++ [⟨some w, ⟨failureKind, false, none⟩⟩] := by
  refine ⟨rfl, fun i x hx => ?_, rfl⟩
  simpa [runStatus_of_getElem? hx] using failSession_off st w i

/-- tie to the source: the model's `accepts` is the table `Wait.Accepts` answers with
(regenerated by asking the linked code on every run) -/
def waitOf : String → Option WaitKind
  | "msg" => some (.msg false) | "msg+timeout" => some (.msg true) | "dial" => some .dial | _ => none
def resumeOf : String → Option ResumeKind
  | "msg" => some .msg | "wait_timeout" => some .timeout | "run_expiration" => some .expiration
  | "dial" => some .dial | _ => none

theorem accepts_matches_source :
    Gen.Engine.accepts.all (fun row =>
      match waitOf row.1, resumeOf row.2.1 with
      | some w, some r => accepts w r == row.2.2
      | _, _ => false) = true ∧ Gen.Engine.accepts.length = 12 ∧
    Gen.Engine.errorCodes = [101, 102, 103] :=
  ⟨by decide +kernel, rfl, rfl⟩

end GoflowModel.Props.C10
