import GoflowModel.Excellent.Guards
import GoflowModel.Gen.Evaluate
/-!
# C04 — Expression and template evaluation is total

Evaluation of a syntax tree is a structural recursion over the tree — `evaluate_is_structural`
checks, on facts regenerated from `excellent/tree.go` on every run, that every `Evaluate` method
calls `Evaluate` only on the fields of its own node — except where an anonymous function is
called, which re-enters a function body.  That re-entry is bounded by the call bookkeeping, proved
here for every history of calls and returns: the nesting never exceeds 100, at most 100000 calls
go ahead in one evaluation.  The remaining sources of unbounded work found by the monitor are
bounded by guards whose arithmetic is proved: an accepted `repeat` produces at most 10 MB (the
guard divides instead of multiplying, so it cannot overflow), accepted rounding places survive the
conversion to int32 unchanged, an accepted exponent is at most 10000 in magnitude.
That every built-in function and operator returns on every argument tuple is decided on the
implementation (child-process monitor over every function at every arity on boundary values).
-/
namespace GoflowModel.Props.C04
open GoflowModel.Guards

theorem repeatLen_eq (len : Nat) (count : Int) :
    repeatLen len count =
      if count < 0 ∨ maxRepeatOutput < len * count.toNat then none else some (len * count.toNat) := by
  have : (count > 0 ∧ len > maxRepeatOutput / count.toNat) ↔ maxRepeatOutput < len * count.toNat := by
    by_cases hc : count > 0
    · simp only [hc, true_and, gt_iff_lt, Nat.div_lt_iff_lt_mul (Int.pos_iff_toNat_pos.1 hc)]
    · simp [hc, Int.toNat_of_nonpos (Int.not_lt.1 hc)]
  simp only [repeatLen, this]
  split <;> simp [*]

/-- **`repeat`**: an accepted call produces exactly `len * count` bytes and never more than the limit -/
theorem repeat_bounded (len : Nat) (count : Int) (n : Nat) (h : repeatLen len count = some n) :
    n = len * count.toNat ∧ n ≤ maxRepeatOutput := by
  rw [repeatLen_eq] at h
  split at h
  · cases h
  · cases h; exact ⟨rfl, by omega⟩

/-- … and a call is refused only when the result really would be too long (or the count negative):
the guard is exact, not merely safe -/
theorem repeat_refused (len : Nat) (count : Int) (h : repeatLen len count = none) :
    count < 0 ∨ len * count.toNat > maxRepeatOutput := by
  rw [repeatLen_eq] at h
  split at h
  · next hc => exact hc
  · cases h

/-- **Rounding places**: accepted places are the same number as an int32 (no wrap-around) -/
theorem places_no_wrap (p : Int) (h : placesOk p = true) : toInt32 p = p := by
  simp only [placesOk, maxRoundingPlaces, Bool.and_eq_true] at h
  have h1 := of_decide_eq_true h.1
  have h2 := of_decide_eq_true h.2
  unfold toInt32
  omega

/-- the wrap-around the guard excludes: -2^31 - 1 becomes 2^31 - 1 -/
example : toInt32 (-2147483649) = 2147483647 ∧ placesOk (-2147483649) = false := by decide

/-- **The `^` operator**: an accepted exponent is at most 10000 in magnitude (exponents of numbers read from text:
`C04Slices.accepted_exponents_bounded`) -/
theorem exponent_bounded (e : Int) (h : exponentOk e = true) : e.natAbs ≤ 10000 := by
  simp only [exponentOk, maxExponent] at h
  exact of_decide_eq_true h

theorem step_inv (s : Calls) (e : Ev) (hd : s.depth ≤ maxDepth) (hc : s.count ≤ maxCalls) :
    (step s e).1.depth ≤ maxDepth ∧ (step s e).1.count ≤ maxCalls := by
  cases e with
  | leave => exact ⟨Nat.le_trans (Nat.sub_le ..) hd, hc⟩
  | enter =>
    simp only [step]
    split
    · exact ⟨hd, hc⟩
    · dsimp only
      omega

theorem step_count (s : Calls) (e : Ev) :
    (step s e).1.count = s.count + if e = .enter ∧ (step s e).2 then 1 else 0 := by
  cases e with
  | leave => rfl
  | enter =>
    simp only [step]
    split <;> rfl

/-- **Nesting and number of calls are bounded**, for every history of attempted calls and returns:
the depth never exceeds 100 and the counter never exceeds 100000 … -/
theorem run_inv (s : Calls) (es : List Ev) (hd : s.depth ≤ maxDepth) (hc : s.count ≤ maxCalls) :
    (run s es).1.depth ≤ maxDepth ∧ (run s es).1.count ≤ maxCalls := by
  induction es generalizing s with
  | nil => exact ⟨hd, hc⟩
  | cons e es ih => exact ih _ (step_inv s e hd hc).1 (step_inv s e hd hc).2

/-- … and the calls that went ahead are exactly what the counter counted, so there are at most
100000 of them in one evaluation, however the calls nest and whatever the expression -/
theorem run_count (s : Calls) (es : List Ev) : (run s es).1.count = s.count + (run s es).2 := by
  induction es generalizing s with
  | nil => rfl
  | cons e es ih => simp only [run, ih, step_count, Nat.add_assoc]

theorem calls_bounded (es : List Ev) : (run ⟨0, 0⟩ es).2 ≤ maxCalls := by
  have h1 := run_count ⟨0, 0⟩ es
  have h2 := (run_inv ⟨0, 0⟩ es (Nat.zero_le _) (Nat.zero_le _)).2
  omega

/-- a function that calls itself, 98 deep already: of 5 more attempts 2 go ahead, the others are refused -/
example : (run ⟨98, 98⟩ (List.replicate 5 .enter)).2 = 2 ∧ (run ⟨98, 98⟩ (List.replicate 5 .enter)).1.depth = 100 := by
  decide

/-- every `Evaluate` method of a syntax-tree node calls `Evaluate` only on that node's own fields,
and the only call that runs later, inside a closure, is the anonymous function's body — the
re-entry that the call bookkeeping bounds -/
theorem evaluate_is_structural :
    Gen.Evaluate.calls.all (fun c => c.2.2.1) = true ∧
    (Gen.Evaluate.calls.filter (fun c => c.2.2.2)).map (fun c => (c.1, c.2.1)) = [("AnonFunction", "x.Body")] :=
  ⟨rfl, rfl⟩

/-! ### indexing in the word and field functions never leaves the slice -/

/-- `words[offset]` is only reached with `0 ≤ offset < len(words)`, for every index — negative ones
count from the end, anything out of range is an error value -/
theorem word_offset_in_range (n : Nat) (index offset : Int) (h : wordOffset n index = some offset) :
    0 ≤ offset ∧ offset < n := by
  simp only [wordOffset, Option.ite_none_right_eq_some, Option.some.injEq] at h
  omega

/-- `words[lo:hi]` is only reached with `0 ≤ lo ≤ hi ≤ len(words)`, for every start and end -/
theorem word_slice_in_range (n : Nat) (start stop lo hi : Int) (h : wordSliceBounds n start stop = some (lo, hi)) :
    0 ≤ lo ∧ lo ≤ hi ∧ hi ≤ n := by
  -- the three refusals leave `0 ≤ start < n` and `stop ≤ 0 ∨ start < stop`; the end is `stop` cut to `n`, or `n`
  simp only [wordSliceBounds, Option.ite_none_left_eq_some] at h
  obtain ⟨h0, h1, h2, h⟩ := h
  split at h <;> split at h <;> cases h <;> omega

/-- `fields[index]` is only reached with `0 ≤ index < len(fields)` -/
theorem field_index_in_range (n : Nat) (index i : Int) (h : fieldIndex n index = some i) : 0 ≤ i ∧ i < n := by
  simp only [fieldIndex, Option.ite_none_left_eq_some, Option.some.injEq] at h
  omega

/-- the guards are not vacuous: in-range requests go through, with the bounds one expects -/
example : wordOffset 3 (-1) = some 2 ∧ wordOffset 3 3 = none ∧ wordSliceBounds 5 1 (-1) = some (1, 5) ∧
    wordSliceBounds 5 1 3 = some (1, 3) ∧ wordSliceBounds 5 1 99 = some (1, 5) ∧ wordSliceBounds 5 3 2 = none ∧
    wordSliceBounds 5 1 0 = some (1, 5) ∧ fieldIndex 2 1 = some 1 ∧ fieldIndex 2 2 = none := by decide

end GoflowModel.Props.C04
