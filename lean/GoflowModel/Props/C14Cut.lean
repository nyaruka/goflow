import GoflowModel.Props.C14
/-!
# C14 — a query cut inside a quoted value is another query

`value_is_one_token` holds of the text the escaping writes *as a whole*.  The repaired defect F-C14-d
was that the evaluated query was afterwards truncated to the engine's limit on evaluated text
(`stringsx.TruncateEllipsis`: the first `max - 3` characters and `...`): here is, in the model's lexer,
what that did to a value that contains quotes — three tokens become four, the tail of the value is a
condition of its own.
-/
namespace GoflowModel.Props.C14Cut
open GoflowModel GoflowModel.ContactQL GoflowModel.Quote GoflowModel.Props.C14

/-- `stringsx.TruncateEllipsis` -/
def truncateEllipsis (max : Nat) (s : List Char) : List Char :=
  if s.length ≤ max then s else s.take (max - 3) ++ "...".toList

def value : List Char := "\" OR g = \"M\" OR n = \"zzzzzzzzzzzz".toList

/-- the query template `n = @value` evaluated with the escaping -/
def query : List Char := "n = ".toList ++ quote (fun _ => true) value

/-- **Whole, the value is one token**: property, comparator, string -/
theorem whole_is_three_tokens : (lexAll asciiCls query).map (·.kind) = [.property, .comparator, .string] := by
  -- a literal is `String.ofList` of its characters, and `rw` reads it so; evaluating `toList` decodes UTF-8, at many times the cost
  unfold query value
  rw [String.toList_ofList, String.toList_ofList]
  decide +kernel

/-- **Cut to 40 characters, what is left of the value is a string followed by text**: the query has
gained a condition -/
theorem cut_is_four_tokens :
    (lexAll asciiCls (truncateEllipsis 40 query)).map (·.kind) = [.property, .comparator, .string, .text] := by
  unfold truncateEllipsis query value
  rw [String.toList_ofList, String.toList_ofList, String.toList_ofList]
  decide +kernel

/-- a query within the limit is not touched -/
theorem short_untouched (max : Nat) (s : List Char) (h : s.length ≤ max) : truncateEllipsis max s = s :=
  if_pos h

end GoflowModel.Props.C14Cut
