import GoflowModel.Engine.InspectRefs
import GoflowModel.Gen.ContextDoc
/-!
# C20 — references to contact fields and globals in templates

The part of "every fixed asset a run's templates touch is listed as a dependency" that is decided by
where inspection looks: a template reaches a contact's field values through every path of the
documented expression context that ends in a `fields` object, and a global through every path that
ends in the `globals` object.  From the regenerated context documentation (`@context` doc comments)
and the regenerated table `fieldRefPaths`:

* every documented path to a `fields` object is in the table (`documented_field_paths_recognised`),
  and the table has no entry the documentation does not know (`recognised_paths_documented`);
* the table before the repair F-C20-c missed one (`old_table_missed_run_contact`);
* for every table entry written in any case and every key, the path is classified as a reference to
  the field of that key, lower-cased (`field_ref_found`, for every key: not a table look-up);
* globals are reached through `globals` alone, which is what the classification tests.
-/
namespace GoflowModel.Props.C20Refs
open GoflowModel.InspectRefs GoflowModel.Gen

/-- both walks in one statement: the kernel compares each pair of type names once per declaration -/
theorem context_paths :
    pathsTo ContextDoc.types "fields" 8 "root" =
      [["contact", "fields"], ["fields"], ["run", "contact", "fields"], ["child", "contact", "fields"], ["child", "fields"],
       ["parent", "contact", "fields"], ["parent", "fields"]] ∧
    pathsTo ContextDoc.types "globals" 8 "root" = [["globals"]] := by decide +kernel

/-- **Every documented way to a contact's field values is one inspection recognises.** -/
theorem documented_field_paths_recognised :
    (pathsTo ContextDoc.types "fields" 8 "root").all (fun p => ContextDoc.fieldRefPaths.contains p) = true := by
  rw [context_paths.1]; decide +kernel

/-- … and inspection recognises no path the documented context does not have -/
theorem recognised_paths_documented :
    ContextDoc.fieldRefPaths.all (fun p => (pathsTo ContextDoc.types "fields" 8 "root").contains p) = true := by
  rw [context_paths.1]; decide +kernel

/-- the depth bound loses nothing: no path is longer than three properties -/
theorem field_paths_short : (pathsTo ContextDoc.types "fields" 8 "root").all (fun p => p.length ≤ 3) = true := by
  rw [context_paths.1]; decide

/-- the table as it was before F-C20-c was repaired does not cover the documented context -/
theorem old_table_missed_run_contact :
    (pathsTo ContextDoc.types "fields" 8 "root").all
      (fun p => [["fields"], ["contact", "fields"], ["parent", "fields"], ["parent", "contact", "fields"], ["child", "fields"],
        ["child", "contact", "fields"]].contains p) = false := by
  rw [context_paths.1]; decide +kernel

/-- **Globals are reached through `globals` alone.** -/
theorem globals_only_top_level : pathsTo ContextDoc.types "globals" 8 "root" = [["globals"]] := context_paths.2

theorem isFieldRefPath_snoc (table : List (List String)) (lower : String → String) (p' : List String) (k : String) :
    isFieldRefPath table lower (p' ++ [k]) = if p'.map lower ∈ table then some (lower k) else none := by
  unfold isFieldRefPath
  induction table with
  | nil => rfl
  | cons q rest ih =>
    rw [List.findSome?_cons, ih]
    by_cases hq : p'.map lower = q
    · subst hq; simp
    · rw [if_neg]
      · simp [hq]
      · -- `q` is as long as `p'`, so to match it would have to be `p'` lower-cased
        rintro ⟨hl, ht⟩
        have hl : p'.length = q.length := by simpa using hl
        exact hq (by simpa [← hl] using ht)

theorem classify_snoc (table : List (List String)) (lower : String → String) (p' : List String) (k : String)
    (hmem : p'.map lower ∈ table)
    (hq : ∀ q ∈ table, q ≠ [] ∧ q.head? ≠ some "globals" ∧ ¬ (q.head? = some "parent" ∧ q[1]? = some "results")) :
    classify table lower (p' ++ [k]) = .field (lower k) := by
  have hf := isFieldRefPath_snoc table lower p' k
  rw [if_pos hmem] at hf
  obtain ⟨hne, hg, hp⟩ := hq _ hmem
  rcases p' with _ | ⟨a, _ | ⟨b, t⟩⟩
  · exact absurd rfl hne
  · rw [List.cons_append, List.nil_append] at hf ⊢
    unfold classify
    dsimp only
    rw [if_neg fun h => hg (congrArg some h), hf, if_neg]
    -- a path of two elements is too short for the `parent.results` branch whatever its words are
    exact fun h => h.2.2 rfl
  · rw [List.cons_append, List.cons_append] at hf ⊢
    unfold classify
    dsimp only
    rw [if_neg fun h => hg (congrArg some h), hf, if_neg]
    exact fun h => hp ⟨congrArg some h.1, congrArg some h.2.1⟩

theorem table_entries_reach_the_field_branch : ∀ q ∈ ContextDoc.fieldRefPaths,
    q ≠ [] ∧ q.head? ≠ some "globals" ∧ ¬ (q.head? = some "parent" ∧ q[1]? = some "results") := by decide +kernel

/-- **A path that is a table entry (written in any case) followed by a key is a reference to the
field of that key**, for every key and every `lower`. -/
theorem field_ref_found (lower : String → String) (p' : List String) (k : String)
    (hmem : p'.map lower ∈ ContextDoc.fieldRefPaths) :
    classify ContextDoc.fieldRefPaths lower (p' ++ [k]) = .field (lower k) :=
  classify_snoc _ lower p' k hmem table_entries_reach_the_field_branch

/-- **… also when the chain goes on after the key** (`@fields.age.foo`, `@(contact.fields.joined.year)`): the parser reports
every prefix of the chain, the one that ends in the key among them. -/
theorem chain_reports_field (lower : String → String) (p' : List String) (k : String) (more : List String)
    (hmem : p'.map lower ∈ ContextDoc.fieldRefPaths) :
    Ref.field (lower k) ∈ chainRefs ContextDoc.fieldRefPaths lower (p' ++ k :: more) := by
  refine List.mem_filter.2 ⟨List.mem_map.2 ⟨p'.length, by simp, ?_⟩, by simp⟩
  rw [List.append_cons, List.take_left' (by simp)]
  exact field_ref_found lower p' k hmem

/-- the premises are met: `@RUN.Contact.fields.Age` with ASCII lower-casing of these very words -/
example : (["run", "contact", "fields"] : List String) ∈ ContextDoc.fieldRefPaths := by decide +kernel

end GoflowModel.Props.C20Refs
