import GoflowModel.Lemmas.Json
import GoflowModel.Lemmas.JsonString
/-!
# C13, JSON clause — a document read with `parse_json` and written back with `json()` is
JSON-equivalent to the original

Model: `Basic/Json.lean` (`rt` = `json ∘ parse_json` on documents: objects become maps — the last
member of a name wins, the member `__default__` is taken for the object's default and not written
back, members are written in the order of their names; numbers are read as decimals and written as
they render).  JSON-equivalence is equality of what documents denote (`sem`): numbers by value,
strings by their characters, arrays by position, objects as maps from names to values.

Kept apart from `Props/C13.lean` because the proof uses that file's number round trip.
The tie to the code is the correspondence `jsonrt` (the implementation's output, token by token,
against `rt`) over generated documents incl. duplicate and `__default__` members.
-/
namespace GoflowModel.Props.C13Json
open GoflowModel.Json GoflowModel.Dec

/-- **JSON round trip**: for every document of any size and nesting whose objects have no member
named `__default__` (numbers being digit strings with any exponent): written back, it denotes the
same. -/
theorem json_roundtrip (j : J) (h1 : NoDefault j) (h2 : NumsOK j) : sem (rt j) = sem j :=
  sem_rt j h1 h2

/-- duplicate members: the last one counts, before and after -/
theorem json_duplicate_members (k : List Char) (a b : J) (hk : k ≠ dflt)
    (ha : NoDefault a) (hb : NoDefault b) (na : NumsOK a) (nb : NumsOK b) :
    sem (rt (.obj (.cons k a (.cons k b .nil)))) = sem (.obj (.cons k b .nil)) := by
  rw [json_roundtrip _ (by simp [NoDefault, NoDefaultO, *]) (by simp [NumsOK, NumsOKO, *])]
  simp only [sem, semO, X.obj.injEq]
  funext q
  by_cases hq : k = q <;> simp [hq]

theorem semO_noDefault : ∀ l : JO, NoDefaultO l → semO l dflt = none
  | .nil, _ => rfl
  | .cons k v rest, h => by
    simp only [semO, semO_noDefault rest h.2.2, h.1, if_false]

/-- the hypothesis is needed — the open finding F-C13-c: an object with a member named
`__default__` (e.g. `{"__default__": null, "Foo": [-12]}`) is written back without it, which does
not denote the same -/
theorem json_default_member_dropped (v : J) (rest : JO) (h1 : NoDefaultO rest) (h2 : NumsOKO rest) :
    sem (rt (.obj (.cons dflt v rest))) ≠ sem (.obj (.cons dflt v rest)) := by
  intro h
  simp only [sem, rt, rtO, if_true] at h
  have := congrFun (X.obj.inj h) dflt
  rw [semO_rtO .nil rest h1 h2] at this
  simp only [semO, semO_noDefault rest h1, if_true] at this
  cases this

/-- non-vacuity: a nested document with a duplicate member, an exponent and a negative zero is
written back with its members in order, the duplicate gone, numbers as they render -/
example :
    rt (.obj (.cons ['b'] (.num ⟨false, ['1', '5'], 3⟩) (.cons ['a'] (.arr (.cons (.num ⟨true, ['0'], 0⟩) (.cons (.str ['x']) .nil)))
      (.cons ['b'] (.num ⟨false, ['2', '5', '0'], -2⟩) .nil)))) =
    .obj (.cons ['a'] (.arr (.cons (.num ⟨false, ['0'], 0⟩) (.cons (.str ['x']) .nil))) (.cons ['b'] (.num ⟨false, ['2', '5'], -1⟩) .nil)) := by
  rfl

example : NoDefault (.obj (.cons ['b'] (.num ⟨false, ['1', '5'], 3⟩) (.cons ['a'] (.arr (.cons (.num ⟨true, ['0'], 0⟩) .nil)) .nil))) ∧
    NumsOK (.obj (.cons ['b'] (.num ⟨false, ['1', '5'], 3⟩) (.cons ['a'] (.arr (.cons (.num ⟨true, ['0'], 0⟩) .nil)) .nil))) := by
  simp only [NoDefault, NoDefaultO, NoDefaultL, NumsOK, NumsOKO, NumsOKL, NumOK]
  decide

/-! ## Strings: the literal that is written denotes the string

`Basic/JsonString`: the string encoder goflow writes JSON with (`jsonx.Marshal`: quotes, backslashes,
control characters, U+2028 / U+2029 escaped; everything else as it is) and the decoder it reads it
with (`json.Valid`, then `jsonparser.ParseString`, then `encoding/json` where that refuses: all escapes of
RFC 8259, surrogate pairs, U+FFFD for lone surrogates; raw control characters and unknown escapes are errors).  Tied to the code by the correspondence `jsonstr` (both
directions, incl. damaged literals). -/

/-- **Every text survives its JSON form**: reading the literal that is written for a string gives
that string — any characters, any length. -/
theorem json_string_roundtrip (s : List Char) : JsonString.decode (JsonString.encode s) = some s :=
  JsonString.decode_encode s

/-- the readers' other paths, on witnesses: a surrogate pair is one character; a lone high surrogate is
refused by `jsonparser` and read by `encoding/json` as U+FFFD; `\\/` is a slash; a raw control
character, an unknown escape and an unterminated literal are errors; and the one place where the two
readers differ on a literal both accept — two low surrogates in a row are *combined* by `jsonparser`
into one (invalid, hence replaced) character where `encoding/json` would read two -/
theorem json_string_decoder_witnesses :
    JsonString.decode "\"\\ud83d\\ude00\"".toList = some [Char.ofNat 0x1F600] ∧
    JsonString.decode "\"a\\ud83dz\"".toList = some ['a', Char.ofNat 0xFFFD, 'z'] ∧
    JsonString.decode "\"\\ude00\"".toList = some [Char.ofNat 0xFFFD] ∧
    JsonString.decode "\"\\/\"".toList = some ['/'] ∧
    JsonString.decode ['"', '\x01', '"'] = none ∧
    JsonString.decode "\"\\x41\"".toList = none ∧
    JsonString.decode "\"abc".toList = none ∧
    JsonString.decode "\"\\ude00\\ude00\"".toList = some [Char.ofNat 0xFFFD] ∧
    JsonString.decodeStd "\"\\ude00\\ude00\"".toList = some [Char.ofNat 0xFFFD, Char.ofNat 0xFFFD] := by
  decide +kernel

/-- what is escaped when writing: the quote, the backslash, control characters, the two line
separators — and nothing else (`<`, `>`, `&` are written as they are: HTML escaping is off) -/
theorem json_string_encoder_witnesses :
    JsonString.encode "a\"b\\c".toList = "\"a\\\"b\\\\c\"".toList ∧
    JsonString.encode ['\n', '\x01', '\x7f'] = "\"\\n\\u0001\x7f\"".toList ∧
    JsonString.encode [Char.ofNat 0x2028, '<', '>', '&', 'é'] = "\"\\u2028<>&é\"".toList := by
  decide +kernel

end GoflowModel.Props.C13Json
