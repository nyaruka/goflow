import GoflowModel.Engine.Redaction
import GoflowModel.Gen.Redaction
/-!
# C19 — Redacted URNs are invisible to expressions

Noninterference at the level of the model of what the context exposes of a contact's URNs, for
every pair of contacts that differ only in URN paths and displays; the complementary fact that
without the policy the path is visible; contacts without a name are shown by id; contact queries
that compare a URN with a value are rejected.  The regenerated census (`Gen/Redaction`) pins every
use of the policy and every URN accessor called inside a function that returns expression values:
a new path from a URN into the context that does not go through `ContactURN.ToXValue` breaks
`urn_reads_go_through_ToXValue`.
-/
namespace GoflowModel.Props.C19
open GoflowModel.Redaction

theorem view_redacted_eq (u v : URN) (h : u.scheme = v.scheme) : view true u = view true v := by
  simp [view, h]

theorem map_view_redacted (as bs : List URN) (h : agree as bs) :
    as.map (view true) = bs.map (view true) := by
  fun_induction agree as bs with
  | case1 => rfl
  | case2 u us v vs ih => simp [view_redacted_eq u v h.1, ih h.2.2]
  | case3 => exact h.elim

theorem find_view_redacted (q : Nat → Option Nat → Bool) (as bs : List URN) (h : agree as bs) :
    (as.find? fun u => q u.scheme u.channel).map (view true) = (bs.find? fun u => q u.scheme u.channel).map (view true) := by
  fun_induction agree as bs with
  | case1 => rfl
  | case2 u us v vs ih =>
    simp only [List.find?_cons, h.1, h.2.1]
    split
    · simp [view_redacted_eq u v h.1]
    · exact ih h.2.2
  | case3 => exact h.elim

/-- **Noninterference.** With URNs redacted, the context of two contacts that differ only in the
path and display of their URNs is the same — default rendering, preferred URN, the URN list and
the per-scheme map — for every contact, URN list and channel configuration. -/
theorem redacted_noninterference (canSend : Nat → Option Nat → Bool) (a b : Contact) (h : sameButPaths a b) :
    contactCtx true canSend a = contactCtx true canSend b := by
  obtain ⟨hn, hi, hr, hu⟩ := h
  simp only [contactCtx, preferred, format, hn, hi, hr, find_view_redacted canSend _ _ hu, map_view_redacted _ _ hu]
  congr 1
  funext s
  simpa using find_view_redacted (fun sc _ => decide (sc = s)) _ _ hu

/-- the pair is not vacuous: two such contacts exist and are different -/
example : sameButPaths ⟨[], 7, [⟨1, 100, 5, none⟩], 0⟩ ⟨[], 7, [⟨1, 200, 6, none⟩], 0⟩ ∧
    (⟨[], 7, [⟨1, 100, 5, none⟩], 0⟩ : Contact) ≠ ⟨[], 7, [⟨1, 200, 6, none⟩], 0⟩ :=
  ⟨⟨rfl, rfl, rfl, rfl, rfl, trivial⟩, by decide⟩

/-- **Without the policy the same expressions do see the URNs**: equal views mean equal paths and
displays. -/
theorem clear_view_injective (u v : URN) (h : view false u = view false v) :
    u.scheme = v.scheme ∧ u.path = v.path ∧ u.display = v.display :=
  ⟨congrArg URNView.scheme h, Prod.mk.inj (Option.some.inj (congrArg URNView.clear h))⟩

/-- …and a nameless contact is then shown by its first URN, so two different paths show differently -/
theorem clear_default_shows_urn (c : Contact) (u : URN) (us : List URN) (hn : c.name = []) (hu : c.urns = u :: us) :
    format false c = .urn u.path := by simp [format, hn, hu]

/-- **Contacts without a name are shown by id** under the policy. -/
theorem redacted_nameless_by_id (c : Contact) (hn : c.name = []) : format true c = .id c.id := by
  simp [format, hn]

/-- **Queries on URNs are rejected**: under the policy a comparison on the `urn` attribute, a
scheme or `urns.<scheme>` is accepted only with the empty value (is-set / is-not-set). -/
theorem redacted_query_rejected (k : PropKind) (valueEmpty : Bool) (hk : k.isURN = true)
    (hacc : rejectsRedacted true k valueEmpty = false) : valueEmpty = true := by
  cases valueEmpty <;> simp_all [rejectsRedacted]

/-- a bare value never searches URNs under the policy -/
theorem redacted_implicit_not_urn (isNumber isURN isPhone : Bool) :
    implicit true isNumber isURN isPhone ≠ .urnEquals ∧ implicit true isNumber isURN isPhone ≠ .telContains := by
  cases isNumber <;> simp [implicit]

/-- without the policy nothing is rejected for redaction -/
theorem clear_never_rejects (k : PropKind) (e : Bool) : rejectsRedacted false k e = false := by
  simp [rejectsRedacted]

/-- where the policy is consulted: value rendering of a URN, the contact's default rendering, the
three comparison forms of a query, the implicit condition and the bare-number rewrite -/
theorem policy_uses_pinned :
    Gen.Redaction.policyUses =
      [("contactql/parser.go", "ParseQuery"),
       ("contactql/visitor.go", "*visitor.VisitCondition"), ("contactql/visitor.go", "*visitor.VisitCondition"),
       ("contactql/visitor.go", "*visitor.VisitCondition"), ("contactql/visitor.go", "*visitor.VisitImplicitCondition"),
       ("flows/contact.go", "*Contact.Format"), ("flows/urn.go", "*ContactURN.ToXValue")] :=
  rfl

/-- inside functions that return expression values, a URN is only ever turned into a value by
`ContactURN.ToXValue` (→ `withoutQuery`, which takes the policy); the other reads are the scheme
in `MapContext` and the two functions that parse URN *text* they are given -/
theorem urn_reads_go_through_ToXValue :
    Gen.Redaction.urnReads.all (fun r =>
      r.2.2 == "ToXValue" ||
      r == ("*ContactURN.ToXValue", "flows.ContactURN", "withoutQuery") ||
      r == ("URNList.MapContext", "flows.ContactURN", "URN") || r == ("URNList.MapContext", "urns.URN", "Scheme") ||
      r == ("FormatURN", "urns.URN", "Format") || r == ("URNParts", "urns.URN", "ToParts")) = true := by
  decide +kernel

end GoflowModel.Props.C19
