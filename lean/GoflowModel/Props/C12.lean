import GoflowModel.Excellent.Template
import GoflowModel.Lemmas.Scanner
import GoflowModel.Gen.Grammar
/-!
# C12 — Literal text and string literals are represented faithfully

Model: `Scanner` (transcription of `excellent/scanner.go`), `LexText` (the ANTLR `TEXT` rule
with longest match), `Quote` (`strconv.Quote/Unquote`), `Template` (literal fragment of
`Evaluator.Template`).  Parameters: `pr` = `strconv.IsPrint`, `cfg.nc` = `isNameChar`,
`cfg.lower` = `strings.ToLower`, `cfg.tops` = allowed top levels.
-/
namespace GoflowModel.Props.C12
open GoflowModel Scanner LexText Quote Template

/-- (1a) The scanner loses nothing: with `@@` un-escaping off, re-rendering the tokens
(`BODY t ↦ t`, `IDENTIFIER t ↦ @t`, `EXPRESSION t ↦ @(t)`) gives back the template, for every
template, every name-character table and every set of allowed top levels. -/
theorem scan_render (cfg : Cfg) (hu : cfg.unesc = false) (tpl : List Char) :
    (scanAll cfg tpl).flatMap Token.render = tpl :=
  scanAllAux_render cfg hu _ tpl (by omega)

/-- (1b) Text without `@` passes through as one BODY token, unchanged. -/
theorem body_passthrough (cfg : Cfg) (s : List Char) (hne : s ≠ []) (h : '@' ∉ s) :
    scanAll cfg s = [⟨.body, s⟩] := by
  have hb : scanBodyAux cfg.nc cfg.unesc s = (s, []) := by
    fun_induction scanBodyAux cfg.nc cfg.unesc s <;> simp_all +zetaDelta
  cases s with
  | nil => exact absurd rfl hne
  | cons c r =>
    have hc : c ≠ '@' := by rintro rfl; simp at h
    simp [scanAll, scanAllAux, scanOne, hc, hb]

/-- (1c) `@@` yields `@`; an `@` before a rune that is neither `(`, `@` nor a name character
stays literal together with that rune. -/
theorem body_at_at (nc : Char → Bool) (r : List Char) :
    (scanBodyAux nc true ('@' :: '@' :: r)).1 = '@' :: (scanBodyAux nc true r).1 := by
  simp [scanBodyAux]

theorem body_at_other (nc : Char → Bool) (d : Char) (r : List Char)
    (h1 : d ≠ '(') (h2 : d ≠ '@') (h3 : nc d = false) :
    (scanBodyAux nc true ('@' :: d :: r)).1 = '@' :: d :: (scanBodyAux nc true r).1 := by
  simp [scanBodyAux, h1, h2, h3]

/-- (1d) `@name…` whose top level is not an allowed one (an e-mail address, a mention) is
returned as BODY text `@name…`, not as an identifier. -/
theorem disallowed_identifier_literal (cfg : Cfg) (d : Char) (r : List Char)
    (hd : d ≠ '@') (hn : cfg.nc d = true) (hp : d ≠ '(')
    (hnot : cfg.allowed (cfg.lower (topLevelOf (scanIdentAux cfg.nc (d :: r)).1)) = false) :
    scanOne cfg ('@' :: d :: r) =
      some (⟨.body, '@' :: (scanIdentAux cfg.nc (d :: r)).1⟩, (scanIdentAux cfg.nc (d :: r)).2) := by
  simp [scanOne, *]

/-- (2a) `strconv.Unquote ∘ strconv.Quote = id`, for every printable table that does not call
a newline printable. -/
theorem unquote_quote (pr : Char → Bool) (hpr : pr '\n' = false) (s : List Char) :
    unquote (quote pr s) = .ok s := Quote.unquote_quote pr hpr s

/-- (2b) The lexer reads the *safe* literal form of any string as exactly one `TEXT` token,
whatever follows it. -/
theorem lex_quoteSafe (pr : Char → Bool) (s rest : List Char) :
    lexText (quoteSafe pr s ++ rest) = some (quoteSafe pr s, rest) := by
  simpa [quoteSafe] using lexText_closing (escBodySafe pr s) rest (QEsc_escBodySafe pr false s)
    (.inl (endsBS_escBodySafe pr s))

/-- (2c) The form the code base itself emits (`strconv.Quote`) lexes as one token when the
string does not end in a backslash, or when no further quote follows in the expression. -/
theorem lex_quote_go_partial (pr : Char → Bool) (s rest : List Char)
    (h : s.getLast? ≠ some '\\' ∨ '"' ∉ rest) :
    lexText (quote pr s ++ rest) = some (quote pr s, rest) := by
  have he : s.getLast? ≠ some '\\' → endsBS false (escBody pr s) = false := by
    rw [endsBS_escBody]
    cases s.getLast? <;> simp
  simpa [quote] using lexText_closing (escBody pr s) rest (QEsc_escBody pr false s) (h.imp_left he)

/-- Full-strength version of (2c) is false: witness `a\` followed by ` & "z"`. -/
theorem lex_quote_go_counterexample :
    lexText (quote (fun _ => true) ['a', '\\'] ++ " & \"z\"".toList) ≠
      some (quote (fun _ => true) ['a', '\\'], " & \"z\"".toList) := by
  decide

/-- (2d) A single safe literal as a whole template evaluates to the string itself. -/
theorem quoteSafe_template_roundtrip (cfg : Cfg) (pr : Char → Bool) (hpr : pr '\n' = false)
    (s : List Char) :
    evalLiteralTemplate cfg ('@' :: '(' :: (quoteSafe pr s ++ [')'])) = some s := by
  have hs := scanExpr_literal (escBodySafe pr s) [] (QEsc_escBodySafe pr false s) (endsBS_escBodySafe pr s)
  have hl := lex_quoteSafe pr s []
  have hu := unquote_quoteSafe pr hpr s
  simp_all [evalLiteralTemplate, scanAll, scanAllAux, scanOne, quoteSafe, evalLiteralTokens, evalLiteralExpr,
    literalValue]

/-- (3a) The scanner's literal reader ends where the lexer's `TEXT` token ends whenever that
end is definitive (the closing quote is not preceded by a backslash). -/
theorem scanner_lexer_agree_literal (b rest : List Char)
    (hq : QEsc false b = true) (he : endsBS false b = false) :
    readLit (b ++ '"' :: rest) false = (b ++ ['"'], rest) ∧
    lexText ('"' :: (b ++ '"' :: rest)) = some ('"' :: (b ++ ['"']), rest) :=
  ⟨readLit_definitive b rest false hq he, lexText_closing b rest hq (.inl he)⟩

/-- (3b) Full agreement is false on the current code: for the literal `"a\\"` the lexer's token
ends at the last quote while the scanner's `escaped` flag (which does not toggle) runs on to
the end of input — the known finding F-C12-a. -/
theorem scanner_lexer_disagree_witness :
    lexText "\"a\\\\\")".toList = some ("\"a\\\\\"".toList, [')']) ∧
    (scanExpr "\"a\\\\\")".toList).2.1 = false := by
  decide

/-- tie to the grammar source (regenerated from `antlr/Excellent3.g4` on every run): the `TEXT`
rule is the one `LexText` transcribes. -/
theorem text_rule_as_modelled :
    Gen.Grammar.excellent3Rules.lookup "TEXT" = some "'\"' (~[\"] | '\\\\\"')* '\"'" := rfl

end GoflowModel.Props.C12
