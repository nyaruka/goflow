import GoflowModel.Props.C16Steps
/-!
# C16 — 13.4 followed by 13.5 carries a template's variables, and their translations, over

The two migrations re-shape the `templating` object of a `send_msg` action twice (variables → one
`body` component with params → `template_variables` on the action).  What the message will be sent
with must not change on the way: for every action, every list of variables and every translation of
them, after both steps `template_variables` holds the variables (as strings) and the language's
translation of `template_variables` under the action's UUID is the translation `variables` had under
the templating's UUID.
-/
namespace GoflowModel.Props.C16Vars
open GoflowModel.Json GoflowModel.Migrate GoflowModel.Migrate.Steps GoflowModel.Props.C16Steps

/-- **The variables arrive**: a `send_msg` action with a templating object, migrated by 13.4 and then
13.5 (any generated UUID, any localization), has `template_variables` = its variables as strings, and
`template` = the templating's template. -/
theorem variables_carried (gen : Nat → Str) (s : Nat × Option JO) (loc5 : Option JO) (a t : JO)
    (ht : isType "send_msg" a = true) (h : get "templating".toList a = some (.obj t)) :
    let a4 := (act13_4 gen s a).2
    get "template_variables".toList (act13_5 loc5 a4).2 = some (.arr (strArr (strs (varsOf t)))) ∧
    get "template".toList (act13_5 loc5 a4).2 = some ((get "template".toList t).getD .null) := by
  intro a4
  have e4 : a4 = _ := act13_4_snd gen s ht h
  have hshape := act13_5_shape loc5 a4 _ (by rw [e4, isType_set_ne key_ne]; exact ht) (by rw [e4]; exact get_set_eq ..)
  refine ⟨?_, ?_⟩
  · -- the one component 13.4 made carries the variables as its params
    rw [hshape.2.2, (templating13_4 ..).2.2]
    simp [compsOf, Steps.get]
  · rw [hshape.2.1, get_del_ne key_ne, get_del_ne key_ne, get_set_ne key_ne]

/-- **From 13.0 to 13.5**: a `send_msg` action with a templating object that goes through 13.1 (a UUID is put on the templating
object), 13.4 and 13.5 ends with `template_variables` = the variables it started with, as strings, and `template` = the templating's
template — whatever UUIDs are generated and whatever the localization holds. -/
theorem variables_carried_from_13_0 (gen : Nat → Str) (n : Nat) (s : Nat × Option JO) (loc5 : Option JO) (a t : JO)
    (ht : isType "send_msg" a = true) (h : get "templating".toList a = some (.obj t)) :
    let a1 := (act13_1 gen n a).2
    let a4 := (act13_4 gen s a1).2
    get "template_variables".toList (act13_5 loc5 a4).2 = some (.arr (strArr (strs (varsOf t)))) ∧
    get "template".toList (act13_5 loc5 a4).2 = some ((get "template".toList t).getD .null) := by
  intro a1 a4
  -- after 13.1: the same action with a `uuid` on the templating object
  have e1 : a1 = _ := act13_1_snd gen n ht h
  have := variables_carried gen s loc5 a1 _ (by rw [e1, isType_set_ne key_ne]; exact ht) (by rw [e1]; exact get_set_eq ..)
  unfold varsOf at this
  rw [get_set_ne key_ne, get_set_ne key_ne] at this
  exact this

theorem strs_strArr (l : List Str) : strs (strArr l) = l := by
  fun_induction strArr l <;> simp [strs, asStr, *]

theorem itGet_set (it : JO) (prop : Str) (vs : List Str) : itGet (set prop (.arr (strArr vs)) it) prop = some vs := by
  unfold itGet
  rw [get_set_eq]
  simp [strs_strArr]

theorem getTranslation_setTranslation (lt : JO) (u prop : Str) (vs : List Str) :
    getTranslation (setTranslation lt u prop vs) u prop = some vs := by
  unfold getTranslation setTranslation
  rw [get_set_eq]
  exact itGet_set _ prop vs

theorem get_deleteTranslation_ne (lt : JO) {u u' : Str} (h : u ≠ u') (prop : Str) :
    get u' (deleteTranslation lt u prop) = get u' lt := by
  fun_cases deleteTranslation lt u prop <;> simp [get_del_ne h, get_set_ne h]

theorem getTranslation_deleteTranslation_ne (lt : JO) {u u' : Str} (h : u ≠ u') (prop prop' : Str) :
    getTranslation (deleteTranslation lt u prop) u' prop' = getTranslation lt u' prop' := by
  unfold getTranslation
  rw [get_deleteTranslation_ne lt h]

/-- **A language's translation of the variables arrives as the translation of `template_variables`
under the action's UUID**: `tv` translated `variables` under the templating's UUID `tu`; `body` is the
UUID 13.4 generates (not `tu`); the action's UUID is `au`. -/
theorem translation_carried (lt : JO) (tu body au : Str) (tv ps : List Str)
    (hne : tu ≠ body)
    (htv : getTranslation lt tu "variables".toList = some tv) :
    getTranslation (lang13_5 [(body, ps)] au (lang13_4 tu body lt)) au "template_variables".toList = some tv := by
  unfold lang13_4 lang13_5
  rw [htv]
  -- after 13.4 the translation is under `body` as its params: deleting under `tu` leaves it there
  simp only [List.foldl_cons, List.foldl_nil, getTranslation_deleteTranslation_ne _ hne, getTranslation_setTranslation,
    List.nil_append]
  exact getTranslation_setTranslation _ au _ tv

/-- the premises are met: a French translation of two variables under the templating's UUID -/
example : getTranslation (.cons "T".toList (.obj (.cons "variables".toList (.arr (strArr ["un".toList, "deux".toList])) .nil)) .nil)
    "T".toList "variables".toList = some ["un".toList, "deux".toList] := by decide +kernel

end GoflowModel.Props.C16Vars
