import GoflowModel.Lemmas.CQL
import GoflowModel.Lemmas.CQLParse
import GoflowModel.Lemmas.CQLLex
import GoflowModel.Basic.Tables
import GoflowModel.Gen.Grammar
/-!
# C14 — Contact queries round-trip through text and cannot be injected into

Model: `ContactQL.Lexer` (the whole ContactQL lexer as a longest-match tokenizer),
`ContactQL.Ast` (`Condition.String`, `BoolCombination.String`, `Stringify`, `Simplify`,
`quoteValue` = `flows.ContactQueryEscaping`), `Quote` (`strconv`), `ContactQL.Parser` (the parser
ANTLR generates from `ContactQL.g4` with the visitor, as precedence climbing over the tokens).

* `value_is_one_token`, `value_denotes`: a value occupies exactly one `STRING` token whatever
  surrounds it and denotes itself — what "cannot add, drop or alter conditions" rests on.
* `print_parse_query`: **every simplified query, of any size and nesting, printed and parsed
  again, is the same query** — conditions with every operator, quoted and bare values,
  `AND`/`OR` combinations of any length with parenthesised sub-combinations.  It goes through a
  relational reading of the parser (sound against the executable one) and the invariant of the operator loop
  (`Flattens`) that `Simplify` flattens the left-nested tree the parser has built so far for `a AND b AND c`.  The
  statement is about the printed *tokens*.
* `printed_text_lexes`: the printed *text* lexes to those tokens (keys made of key characters, any
  values), so the round trip holds through text as well: `print_lex_parse_query`.
* the parser model is tied to the generated parser by the correspondence `qparse` (real lexer
  tokens → simplified tree, incl. juxtaposition, mixed precedence and syntax errors).
-/
namespace GoflowModel.Props.C14
open GoflowModel ContactQL Quote LexText

/-- (no injection) Wherever the lexer stands at the start of an escaped value, the next token is
a `STRING` token that is exactly that escaped value, for **every** value and **every**
continuation of the query text. -/
theorem value_is_one_token (cls : Cls) (pr : Char → Bool) (v rest : List Char) :
    tokenAt cls (quoteValue pr v ++ rest) = some (⟨.string, quoteValue pr v⟩, rest) :=
  tokenAt_quoteValue cls pr v rest

/-- white space before the value changes nothing (`nextToken` skips it) -/
theorem value_is_next_token (cls : Cls) (pr : Char → Bool) (v rest : List Char) :
    nextToken cls (' ' :: (quoteValue pr v ++ rest)) = some (⟨.string, quoteValue pr v⟩, rest) := by
  obtain ⟨b, e, -⟩ := quoteValue_body pr v
  rw [nextToken_space, ← value_is_one_token cls pr v rest, e]
  exact nextToken_nows cls '"' _ rfl

/-- …and the token denotes exactly the value (`VisitStringLiteral` = `strconv.Unquote`). -/
theorem value_denotes (pr : Char → Bool) (hpr : pr '\n' = false) (v : List Char) :
    literalValue (quoteValue pr v) = some v :=
  literalValue_quoteValue pr hpr v

/-- The defect repaired by the `fix:` commits: with plain `strconv.Quote` the statement is
false — the value `a\` swallows the condition that follows it. -/
theorem strconv_quote_counterexample :
    tokenAt ⟨fun _ => false, fun _ => false⟩ (quote (fun _ => true) ['a', '\\'] ++ " OR x = \"M\"".toList) ≠
      some (⟨.string, quote (fun _ => true) ['a', '\\']⟩, " OR x = \"M\"".toList) := by
  decide

/-- `Stringify` removes exactly the enclosing parentheses of a top-level combination. -/
theorem stringify_comb (pr : Char → Bool) (a : Bool) (cs : List Node) :
    stringify pr (some (.comb a cs)) =
      joinSep (if a then " AND ".toList else " OR ".toList) (nodesString pr cs) := by
  -- for any body, so that `simp` does not go into this one (string literals under an `if`: slow)
  have key : ∀ body : List Char,
      (if (['('] ++ body ++ [')']).head? = some '(' ∧ (['('] ++ body ++ [')']).getLast? = some ')' then
        ((['('] ++ body ++ [')']).drop 1).dropLast else ['('] ++ body ++ [')']) = body := by
    simp [List.getLast?_cons]
  exact key _

theorem stringify_cond {cls : Cls} (ok : ClsOK cls) (pr : Char → Bool) (c : Cond) (h : KeyOK cls c) :
    stringify pr (some (.cond c)) = condString pr c := by
  -- if the text started with `(`, the lexer would see a parenthesis where `tokenAt_prop` says it sees a property
  have ht := tokenAt_prop ok c h _ (.space (c.op.text ++ ' ' :: (valueTok pr c.value).text))
  rw [← condString_eq] at ht
  simp only [stringify, nodeString]
  refine if_neg fun hc => ?_
  obtain ⟨r, hs⟩ := List.head?_eq_some_iff.1 hc.1
  rw [hs] at ht
  cases ht

theorem stringify_nil (pr : Char → Bool) : stringify pr none = [] := rfl

/-- the value of a printed condition is the bare number or the escaped value -/
theorem cond_value_form (pr : Char → Bool) (c : Cond) :
    ∃ p, condString pr c = p ++ [' '] ++ c.op.text ++ [' '] ++
      (if isNumber c.value then c.value else quoteValue pr c.value) :=
  ⟨_, rfl⟩

/-- **Round trip of every simplified query**: printed by `Stringify` and parsed by `ParseQuery`
(then simplified), it is the same query.  `Simp`: every combination has at least two children, none
of them a combination of the same operator (what `Simplify` leaves); every condition's property
text is lower-case and resolves to its own type (`fields.…`, `urns.…`, or a known attribute). -/
theorem print_parse_query (env : PEnv) (pr : Char → Bool) (hpr : pr '\n' = false) (n : Node) (h : Simp env n) :
    ∃ f0, ∀ f, f0 ≤ f → (parseExpr env f 0 (queryToks pr n)).map (fun p => (simplify p.1, p.2)) = some (some n, []) := by
  obtain ⟨t, hp, hs⟩ := query_printed env pr hpr n h
  exact (run_of_qparses hp).mono fun f hf => by rw [show parseExpr env f 0 _ = _ from hf, Option.map_some, hs]

/-- **The printed text lexes to the printed tokens**: for every query whose keys are made of key
characters (field keys, URN schemes and attribute names are) the text `Stringify` writes is read by
the lexer — longest match, rule order, keywords, white space — as exactly the tokens of the printer
model, whatever the values are. -/
theorem printed_text_lexes (cls : Cls) (ok : ClsOK cls) (pr : Char → Bool) (n : Node) (h : LexOK cls n) :
    lexAll cls (stringify pr (some n)) = queryToks pr n := by
  cases n with
  | cond c =>
    rw [LexOK] at h
    have := lexAll_condString ok pr c h [] .nil
    rwa [List.append_nil, lexAll_nil, List.append_nil, ← stringify_cond ok pr c h] at this
  | comb a cs =>
    rw [LexOK] at h
    have := lexAll_joinSep ok pr a cs h.1 h.2 [] .nil
    rwa [List.append_nil, lexAll_nil, List.append_nil, ← stringify_comb] at this

/-- **Round trip through text**: the text of every simplified query, lexed and parsed (and simplified
as `ParseQuery` does), is the same query — values included, whatever characters they contain: no
value can end its own token, start another condition or change the grouping. -/
theorem print_lex_parse_query (env : PEnv) (cls : Cls) (ok : ClsOK cls) (pr : Char → Bool) (hpr : pr '\n' = false)
    (n : Node) (h : Simp env n) (hl : LexOK cls n) :
    ∃ f0, ∀ f, f0 ≤ f →
      (parseExpr env f 0 (lexAll cls (stringify pr (some n)))).map (fun p => (simplify p.1, p.2)) = some (some n, []) := by
  rw [printed_text_lexes cls ok pr n hl]
  exact print_parse_query env pr hpr n h

/-- the ASCII letters and digits as character classes meet `ClsOK` (the Unicode classes of the real
lexer agree with them on ASCII) -/
def asciiCls : Cls :=
  ⟨fun c => (decide ('a' ≤ c) && decide (c ≤ 'z')) || (decide ('A' ≤ c) && decide (c ≤ 'Z')), isAsciiDigit⟩

theorem asciiCls_ok : ClsOK asciiCls :=
  ⟨by decide, by decide, by decide, by decide, digit_cases (by decide)⟩

/-- the character classes of the real lexer: `UnicodeLetter` / `UnicodeDigit` of LexUnicode.g4, regenerated
from the grammar source on every run (the classes the correspondence K:qlex runs the model with) -/
def grammarCls : Cls :=
  { letter := fun c => Tables.inRanges Gen.Grammar.antlrLetter c.toNat,
    digit := fun c => Tables.inRanges Gen.Grammar.antlrDigit c.toNat }

/-- **…and they meet `ClsOK`**, so the two theorems above hold of the lexer as the grammar defines it. -/
theorem grammarCls_ok : ClsOK grammarCls :=
  ⟨by decide +kernel, by decide +kernel, by decide +kernel, by decide +kernel, digit_cases (by decide +kernel)⟩

/-- non-vacuity of the lexing premise, on the query of the next example -/
example : LexOK asciiCls
    (.comb true [.cond ⟨.attr, "name".toList, .eq, "Bob".toList⟩,
      .comb false [.cond ⟨.field, "age".toList, .gt, "10".toList⟩, .cond ⟨.urn, "tel".toList, .contains, "x y".toList⟩],
      .cond ⟨.attr, "id".toList, .eq, "5".toList⟩]) := by
  simp only [LexOK, LexOKL, KeyOK, kwFree, ne_eq, reduceCtorEq, not_false_eq_true, true_and, and_true,
    true_implies, false_implies]
  decide

/-- non-vacuity: `name = "Bob" AND (fields.age > 10 OR urns.tel ~ "x y") AND id = 5` is simplified -/
example : Simp ⟨fun k => k = "name".toList || k = "id".toList, fun _ => false, fun v => ⟨.attr, "name".toList, .contains, v⟩, id⟩
    (.comb true [.cond ⟨.attr, "name".toList, .eq, "Bob".toList⟩,
      .comb false [.cond ⟨.field, "age".toList, .gt, "10".toList⟩, .cond ⟨.urn, "tel".toList, .contains, "x y".toList⟩],
      .cond ⟨.attr, "id".toList, .eq, "5".toList⟩]) := by
  simp only [Simp, SimpL, CondOK, sameOp, propText, id]
  decide

/-- simplification is needed: the parser builds `a AND b AND c` as `(a AND b) AND c` -/
example :
    (parseExpr ⟨fun _ => true, fun _ => false, fun v => ⟨.attr, ['?'], .eq, v⟩, id⟩ 20 0
      [⟨.property, ['a']⟩, ⟨.comparator, ['=']⟩, ⟨.property, ['1']⟩, ⟨.and, "AND".toList⟩,
       ⟨.property, ['b']⟩, ⟨.comparator, ['=']⟩, ⟨.property, ['2']⟩, ⟨.and, "and".toList⟩,
       ⟨.property, ['c']⟩, ⟨.comparator, ['=']⟩, ⟨.property, ['3']⟩]).map (fun p => (p.1, p.2.length)) =
    some (.comb true [.comb true [.cond ⟨.attr, ['a'], .eq, ['1']⟩, .cond ⟨.attr, ['b'], .eq, ['2']⟩], .cond ⟨.attr, ['c'], .eq, ['3']⟩], 0) := by
  rfl

/-- tie to the grammar source: the `STRING` rule and the order of the lexer rules are the ones
the model transcribes (regenerated from `antlr/ContactQL.g4` on every run). -/
theorem string_rule_as_modelled :
    Gen.Grammar.contactqlRules.lookup "STRING" = some "'\"' (~[\"] | '\\\\\"')* '\"'" := rfl

theorem lexer_rules_as_modelled :
    (Gen.Grammar.contactqlRules.map (·.1)).take 14 =
      ["HAS", "IS", "PROPTYPE", "PROPKEY", "LPAREN", "RPAREN", "AND", "OR", "COMPARATOR", "STRING",
       "PROPERTY", "TEXT", "WS", "ERROR"] ∧
    Gen.Grammar.contactqlRules.lookup "PROPERTY" = some "(PROPTYPE '.')? PROPKEY" ∧
    Gen.Grammar.contactqlRules.lookup "COMPARATOR" = some "( '=' | '!=' | '~' | '>=' | '<=' | '>' | '<' | HAS | IS )" ∧
    Gen.Grammar.contactqlRules.lookup "TEXT" =
      some "( UnicodeLetter | UnicodeDigit | '_' | '.' | '-' | '+' | '/' | '\\'' | '@' | ':' )+" :=
  ⟨rfl, rfl, rfl, rfl⟩

end GoflowModel.Props.C14
