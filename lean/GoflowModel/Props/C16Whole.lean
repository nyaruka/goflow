import GoflowModel.Props.C16Steps
/-!
# C16 — what the per-version functions establish for the whole definition

`Props/C16Steps` states what each function does to one action.  Here the statements are lifted to
every action object of every node object of the definition (`allActions`), for every document:
after 13.5 no `send_msg` action has a templating object any more; after 13.1 every templating object
has a `uuid`; after 13.4 it has a component list and neither `uuid` nor `variables`; after 13.6 every
`set_run_result` action's name has at most 64 characters and its category at most 36, and (for every
node object, `allNodes`) a router's result name and category names are within the same limits.  These
are the parts of "the migrated definition loads at the current version" that the migrations are
responsible for.
-/
namespace GoflowModel.Props.C16Whole
open GoflowModel.Json GoflowModel.Migrate GoflowModel.Migrate.Steps

/-- every element of the array that is an object satisfies `P` -/
def allObjs (P : JO → Prop) : JL → Prop
  | .nil => True
  | .cons (.obj o) rest => P o ∧ allObjs P rest
  | .cons _ rest => allObjs P rest

theorem allObjs_mapObjs {S : Type} (f : S → JO → S × JO) (P : JO → Prop) (h : ∀ s o, P (f s o).2) (s : S) (l : JL) :
    allObjs P (mapObjs f s l).2 := by
  fun_induction mapObjs f s l with
  | case1 => trivial
  | case2 s o rest r r' ih => exact ⟨h s o, ih⟩
  | case3 s x rest hx r' ih => rw [allObjs.eq_3 _ _ _ hx]; exact ih

/-- `nodeActions P`, `allActions P` and `allNodes P` below unfold to instances of this, so `allAt_onKeyArr` applies to
them as they stand -/
def allAt (k : Str) (P : JO → Prop) (o : JO) : Prop :=
  match get k o with
  | some (.arr l) => allObjs P l
  | _ => True

theorem allAt_onKeyArr {S : Type} (k : Str) (g : S → JO → S × JO) (P : JO → Prop) (h : ∀ s a, P (g s a).2) (s : S) (o : JO) :
    allAt k P (onKeyArr k g s o).2 := by
  fun_cases onKeyArr k g s o with
  | case1 => simp only [allAt, get_set_eq]; exact allObjs_mapObjs g P h s _
  | case2 hne =>
    unfold allAt
    split
    · next l hl => exact absurd hl (hne l)
    · trivial

/-- every action object of the node -/
def nodeActions (P : JO → Prop) (n : JO) : Prop :=
  match get "actions".toList n with
  | some (.arr l) => allObjs P l
  | _ => True

/-- every action object of every node object of the definition -/
def allActions (P : JO → Prop) (f : JO) : Prop :=
  match get "nodes".toList f with
  | some (.arr ns) => allObjs (nodeActions P) ns
  | _ => True

/-- every node object of the definition -/
def allNodes (P : JO → Prop) (f : JO) : Prop :=
  match get "nodes".toList f with
  | some (.arr ns) => allObjs P ns
  | _ => True

theorem allActions_onActions {S : Type} (g : S → JO → S × JO) (P : JO → Prop) (h : ∀ s a, P (g s a).2) (s : S) (f : JO) :
    allActions P (onActions g s f).2 :=
  allAt_onKeyArr _ _ (nodeActions P) (allAt_onKeyArr _ g P h) s f

theorem allActions_putLocalization (P : JO → Prop) (l : Option JO) (f : JO) :
    allActions P (putLocalization l f) ↔ allActions P f := by
  unfold allActions
  rw [get_putLocalization_ne key_ne]

theorem allNodes_13_6 (P : JO → Prop) (h : ∀ n, P (node13_6 n)) (f : JO) : allNodes P (mig13_6 f) :=
  allAt_onKeyArr _ _ P (fun _ => h) () f

def NoTemplating (a : JO) : Prop := isType "send_msg" a = true → ∀ t, get "templating".toList a ≠ some (.obj t)

theorem act13_5_noTemplating (loc : Option JO) (a : JO) : NoTemplating (act13_5 loc a).2 := by
  fun_cases act13_5 loc a with
  | case1 => intro _ t ht; rw [get_del_eq] at ht; cases ht
  | case2 _ hne => exact fun _ t ht => hne t ht
  | case3 hty => exact fun h => absurd h hty

/-- **After 13.5 no `send_msg` action of the definition has a templating object.** -/
theorem mig13_5_noTemplating (f : JO) : allActions NoTemplating (mig13_5 f) :=
  (allActions_putLocalization ..).2 (allActions_onActions act13_5 NoTemplating act13_5_noTemplating _ f)

def TemplatingHasUUID (a : JO) : Prop :=
  isType "send_msg" a = true → ∀ t, get "templating".toList a = some (.obj t) → ∃ u, get "uuid".toList t = some (.str u)

theorem act13_1_hasUUID (gen : Nat → Str) (n : Nat) (a : JO) : TemplatingHasUUID (act13_1 gen n a).2 := by
  fun_cases act13_1 gen n a with
  | case1 => intro _ t ht; rw [get_set_eq] at ht; cases ht; exact ⟨_, get_set_eq ..⟩
  | case2 _ hne => exact fun _ t ht => (hne t ht).elim
  | case3 hty => exact fun h => absurd h hty

/-- **After 13.1 every templating object of a `send_msg` action has a `uuid`.** -/
theorem mig13_1_hasUUID (gen : Nat → Str) (n : Nat) (f : JO) : allActions TemplatingHasUUID (mig13_1 gen n f).2 :=
  allActions_onActions (act13_1 gen) TemplatingHasUUID (act13_1_hasUUID gen) n f

def TemplatingHasComponents (a : JO) : Prop :=
  isType "send_msg" a = true → ∀ t, get "templating".toList a = some (.obj t) →
    get "uuid".toList t = none ∧ get "variables".toList t = none ∧ ∃ cs, get "components".toList t = some (.arr cs)

theorem act13_4_hasComponents (gen : Nat → Str) (s : Nat × Option JO) (a : JO) : TemplatingHasComponents (act13_4 gen s a).2 := by
  fun_cases act13_4 gen s a with
  | case1 =>
    intro _ t ht; rw [get_set_eq] at ht; cases ht
    exact (templating13_4 _ _).imp id (And.imp id fun h => ⟨_, h⟩)
  | case2 _ hne => exact fun _ t ht => (hne t ht).elim
  | case3 hty => exact fun h => absurd h hty

/-- **After 13.4 every templating object of a `send_msg` action has a component list and neither `uuid` nor `variables`.** -/
theorem mig13_4_hasComponents (gen : Nat → Str) (n : Nat) (f : JO) : allActions TemplatingHasComponents (mig13_4 gen n f).2 :=
  (allActions_putLocalization ..).2 (allActions_onActions (act13_4 gen) TemplatingHasComponents (act13_4_hasComponents gen) _ f)

def NamesWithinLimits (a : JO) : Prop :=
  isType "set_run_result" a = true →
    (∀ n, get "name".toList a = some (.str n) → n.length ≤ 64) ∧ (∀ c, get "category".toList a = some (.str c) → c.length ≤ 36)

theorem act13_6_within (a : JO) : NamesWithinLimits (act13_6 a) := by
  fun_cases act13_6 a with
  | case1 =>
    refine fun _ => ⟨fun n hn => ?_, C16Steps.limKey_within _ 36 _⟩
    rw [C16Steps.get_limKey_ne key_ne] at hn
    exact C16Steps.limKey_within _ 64 a n hn
  | case2 hty => exact fun h => absurd h hty

/-- **After 13.6 every `set_run_result` action's name has at most 64 characters and its category at most 36.** -/
theorem mig13_6_within (f : JO) : allActions NamesWithinLimits (mig13_6 f) := by
  refine allNodes_13_6 (nodeActions NamesWithinLimits) (fun n => ?_) f
  unfold nodeActions
  rw [C16Steps.get_node13_6_ne key_ne]
  exact allAt_onKeyArr _ _ _ (fun _ => act13_6_within) () n

def CategoryNameWithin (c : JO) : Prop := ∀ n, get "name".toList c = some (.str n) → n.length ≤ 36

def RouterWithinLimits (n : JO) : Prop :=
  ∀ r, get "router".toList n = some (.obj r) →
    (∀ rn, get "result_name".toList r = some (.str rn) → rn.length ≤ 64) ∧
    (∀ cs, get "categories".toList r = some (.arr cs) → allObjs CategoryNameWithin cs)

theorem router13_6_within (r : JO) :
    (∀ rn, get "result_name".toList (router13_6 r) = some (.str rn) → rn.length ≤ 64) ∧
    (∀ cs, get "categories".toList (router13_6 r) = some (.arr cs) → allObjs CategoryNameWithin cs) := by
  fun_cases router13_6 r with
  | case1 _ cats =>
    refine ⟨fun rn hrn => ?_, fun cs hcs => ?_⟩
    · rw [get_set_ne key_ne] at hrn
      exact C16Steps.limKey_within _ 64 r rn hrn
    · rw [get_set_eq] at hcs
      cases hcs
      exact allObjs_mapObjs _ CategoryNameWithin (fun _ c n hn => C16Steps.limKey_within _ 36 c n hn) () cats
  | case2 _ hne => exact ⟨C16Steps.limKey_within _ 64 r, fun cs hcs => absurd hcs (hne cs)⟩

theorem node13_6_router (n : JO) : RouterWithinLimits (node13_6 n) := by
  intro r
  fun_cases node13_6 n with
  | case1 _ r0 => intro hr; rw [get_set_eq] at hr; cases hr; exact router13_6_within r0
  | case2 _ hne => exact fun hr => absurd hr (hne r)

/-- **After 13.6 every router's result name and category names are within the limits.** -/
theorem mig13_6_routers (f : JO) : allNodes RouterWithinLimits (mig13_6 f) :=
  allNodes_13_6 _ node13_6_router f

/-- the statements are not vacuous: a definition with one node and an over-long `set_run_result` name -/
def sample : JO :=
  .cons "nodes".toList (.arr (.cons (.obj (.cons "actions".toList (.arr (.cons (.obj
    (.cons "type".toList (.str "set_run_result".toList) (.cons "name".toList (.str (List.replicate 70 'n')) .nil))) .nil)) .nil)) .nil)) .nil

example : ¬ allActions NamesWithinLimits sample := by
  intro h
  have := (h.1.1 rfl).1 (List.replicate 70 'n') rfl
  simp at this

end GoflowModel.Props.C16Whole
