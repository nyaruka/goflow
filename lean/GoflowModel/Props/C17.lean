import GoflowModel.Excellent.Legacy
import GoflowModel.Excellent.LegacyTable
import GoflowModel.Lemmas.LegacyFull
import GoflowModel.Gen.LegacyFuncs
import GoflowModel.Lemmas.LegacyRefs
import GoflowModel.Gen.LegacyRefs
import GoflowModel.Props.C11
/-!
# C17 — Legacy expression migration preserves meaning

For the operator core of the legacy language — references, numbers, booleans, negation,
parentheses, the binary operators that migrate to themselves and the functions that migrate to
operator expressions (`SUM`, `CONCATENATE`, `POWER`, `EXP`), nested in one another to any depth —
the migrated expression (`migE`, the model of the text the visitor assembles with `operand`):

* `mig_core`: has the shape the new parser produces, so
* `mig_parses`: its printed tokens parse back to exactly that tree (by C11's round trip), and
* `mig_grouping`: that tree, parentheses aside, is the tree the legacy expression denotes — every
  operator has the operands it had, in the order it had them.

`naive_regroups` is the kernel-checked witness that the migration before the repair (operands
substituted as they are) regrouped `SUM(1, 2) * 3`.

**The whole visitor** (second half of this file; model `Excellent/LegacyFull`, table
`Excellent/LegacyTable`): dotted context references, text literals, every form of `+`/`-` the type
inference can pick (two numbers, datetime ± days, date ± days with or without `format_date`,
datetime ± time, date + time, the `legacy_add` fallback) and **every function call through the
migration table** — kept, renamed, joined, written through a template with operator positions, or
through per-parameter migrators with defaults (decremented positions, the `by_spaces` flag):

* `migF_shape` / `migF_parses`: for every well-formed legacy expression, of any size and nesting, the
  migrated text's tokens parse back to exactly the tree the migration meant (C11's round trip for
  the whole language) — nothing is regrouped by the new parser's precedence rules;
* `migF_grouping`: that tree, parentheses aside, is the denoted tree (`semF`): every operator and
  call has the operands it had, in the order the table prescribes;
* `table_matches_source`: the model's table, described back in the terms of the source, **is** the
  `callMigrators` table regenerated from functions.go on every run (constructor, template text, new
  names, levels, parameter migrators, defaults); `table_wellformed`: every entry's template is
  written so that the parser reads it as meant whatever the parameters (`TOK`), hence
  `table_calls_wellformed`: a call of any table function with a number of parameters its migrator
  accepts is well formed.

**Context references** (last part; model `Excellent/LegacyRefs`, a hand transcription of the rules
of `MigrateContextReference`): whatever rule applies, or none, the migrated reference is an atom
whose text parses back to the tree the rule means; the regular expressions the rules were transcribed
from are those of context.go.

Not theorems: which form of `+`/`-` is picked (`inferType` works on text; the correspondence
K:legmigf sends the form an independent reading of the operand texts gives and compares the whole
migrated text), that the rules of `migRef` match what the regular expressions match (the
correspondence K:legref), and the value of a decremented literal beyond `decr` (monitors M-meaning,
M-golden).
-/
namespace GoflowModel.Props.C17
open GoflowModel.Expr GoflowModel.Legacy

theorem level_le_14 (e : Expr) : level e ≤ 14 := LegacyFull.level_le_14 e

/- The counterparts of `good_wrapTo`, `good_bin_wrapTo`, `strip_wrapTo` (`Lemmas/LegacyFull`) for `Core` and the `wrapTo` of
`Excellent/Legacy`, the model of the operator core that the correspondence K:legmig runs. -/
theorem core_wrapTo {e : Expr} (h : Core e) (lvl : Nat) (hl : lvl ≤ 14) :
    Core (wrapTo lvl e) ∧ lvl ≤ level (wrapTo lvl e) := by
  unfold wrapTo
  split
  · exact ⟨.paren h, hl⟩
  · exact ⟨h, by omega⟩

theorem core_wrapTo_prec {e : Expr} (h : Core e) (o : BinOp) :
    Core (wrapTo o.prec e) ∧ o.prec ≤ level (wrapTo o.prec e) :=
  core_wrapTo h _ (Nat.le_of_lt (prec_lt_14 o))

theorem core_bin_wrapTo {o : BinOp} {l r : Expr} (hl : Core l) (h1 : o.prec ≤ level l) (hr : Core r) :
    Core (.bin o l (wrapTo (o.prec + 1) r)) :=
  have w := core_wrapTo hr (o.prec + 1) (prec_lt_14 o)
  .bin hl w.1 h1 w.2

theorem strip_wrapTo (lvl : Nat) (e : Expr) : strip (wrapTo lvl e) = strip e := by
  unfold wrapTo; split <;> rfl

theorem numValue_eConst : numValue eConst = eConst := by decide +kernel

mutual
  theorem mig_core : ∀ l : L, LWF l → Core (migE l)
    | .ref _, h => .ref h
    | .num _, h => .num h
    | .bool true, _ => .tru
    | .bool false, _ => .fls
    | .neg e, h =>
      have w := core_wrapTo (mig_core e h) 13 (by omega)
      .neg w.1 w.2
    | .paren e, h => .paren (mig_core e h)
    | .bin o l r, h =>
      have a := core_wrapTo_prec (mig_core l h.1) o
      core_bin_wrapTo a.1 a.2 (mig_core r h.2)
    | .sum args, h => join_core .add args h
    | .concat args, h => join_core .amp args h
    | .power a b, h =>
      have x := core_wrapTo_prec (mig_core a h.1) .exp
      core_bin_wrapTo x.1 x.2 (mig_core b h.2)
    | .exp a, h => core_bin_wrapTo (o := .exp) (.num numValue_eConst) (by decide) (mig_core a h)
  theorem join_core (o : BinOp) : ∀ args : LArgs, LWFArgs args → Core (joinE o args)
    | .one e, h => (core_wrapTo_prec (mig_core e h) o).1
    | .cons e rest, h =>
      have a := core_wrapTo_prec (mig_core e h.1) o
      joinRest_core o _ a.1 a.2 rest h.2
  theorem joinRest_core (o : BinOp) (acc : Expr) (ha : Core acc) (hl : o.prec ≤ level acc) :
      ∀ args : LArgs, LWFArgs args → Core (joinRest o acc args)
    | .one e, h => core_bin_wrapTo ha hl (mig_core e h)
    | .cons e rest, h => joinRest_core o _ (core_bin_wrapTo ha hl (mig_core e h.1)) (Nat.le_refl _) rest h.2
end

/-- **The migrated text parses to the migrated tree** — in any position an expression can stand. -/
theorem mig_parses (l : L) (h : LWF l) :
    ∃ f0, ∀ f, f0 ≤ f → parseExpr f 0 (toks (migE l)) = some (migE l, []) :=
  C11.print_parse_core_partial _ (mig_core l h)

mutual
  /-- **Grouping and argument order are kept**: parentheses aside, the migrated tree is the tree the
  legacy expression denotes. -/
  theorem mig_grouping : ∀ l : L, strip (migE l) = sem l
    | .ref _ => rfl
    | .num _ => rfl
    | .bool _ => rfl
    | .neg e => by simp only [migE, sem, strip, strip_wrapTo, mig_grouping e]
    | .paren e => mig_grouping e
    | .bin o l r => by simp only [migE, sem, strip, strip_wrapTo, mig_grouping l, mig_grouping r]
    | .sum args => by simp only [migE, sem, join_grouping .add args]
    | .concat args => by simp only [migE, sem, join_grouping .amp args]
    | .power a b => by simp only [migE, sem, strip, strip_wrapTo, mig_grouping a, mig_grouping b]
    | .exp a => by simp only [migE, sem, strip, strip_wrapTo, mig_grouping a]
  theorem join_grouping (o : BinOp) : ∀ args : LArgs, strip (joinE o args) = semJoin o args
    | .one e => by simp only [joinE, semJoin, strip_wrapTo, mig_grouping e]
    | .cons e rest => by
      simp only [joinE, semJoin]
      exact joinRest_grouping o _ _ (by rw [strip_wrapTo, mig_grouping e]) rest
  theorem joinRest_grouping (o : BinOp) (acc acc' : Expr) (h : strip acc = acc') :
      ∀ args : LArgs, strip (joinRest o acc args) = semRest o acc' args
    | .one e => by simp only [joinRest, semRest, strip, strip_wrapTo, mig_grouping e, h]
    | .cons e rest => by
      simp only [joinRest, semRest]
      exact joinRest_grouping o _ _ (by simp only [strip, strip_wrapTo, mig_grouping e, h]) rest
end

/-- `SUM(1, 2) * 3`: before the repair the text was `1 + 2 * 3`, which the parser groups as
`1 + (2 * 3)`; the repaired migration writes `(1 + 2) * 3`. -/
theorem naive_regroups :
    let l := L.bin .mul (.sum (.cons (.num ['1']) (.one (.num ['2'])))) (.num ['3'])
    grouped (sem l) = "((1 + 2) * 3)".toList ∧
    render (migNaive l) = "1 + 2 * 3".toList ∧
    (parse (toks (migNaive l))).map grouped = some "(1 + (2 * 3))".toList ∧
    render (migE l) = "(1 + 2) * 3".toList ∧
    (parse (toks (migE l))).map grouped = some "((1 + 2) * 3)".toList := by
  simp (disch := with_reducible rfl) only [toList_lit]
  decide +kernel

section Full
open GoflowModel.LegacyFull GoflowModel.Expr.Full

/-- The migrated tree of a well-formed legacy expression is in the shape the new parser produces. -/
theorem migF_shape (l : LF) (h : LegacyFull.LWF l) : Shape (.e (migF l)) := (good_migF l h).1

/-- **The migrated text parses to the migrated tree**, for the whole legacy language. -/
theorem migF_parses (l : LF) (h : LegacyFull.LWF l) :
    ∃ f0, ∀ f, f0 ≤ f → parseExpr f 0 (toks (migF l)) = some (migF l, []) :=
  C11.print_parse _ (migF_shape l h)

/-- …and as a parameter or in parentheses, i.e. wherever the migration of an enclosing call puts it:
before `)`, `,` or the end. -/
theorem migF_parses_in_context (l : LF) (h : LegacyFull.LWF l) (rest : List Tok) (hq : Full.quiet rest)
    (hs : ∀ q tl, rest ≠ .op q :: tl) :
    ∃ f0, ∀ f, f0 ≤ f → parseExpr f 0 (toks (migF l) ++ rest) = some (migF l, rest) :=
  C11.print_parse_in_context _ (migF_shape l h) rest hq hs

/-- **Grouping and argument order are kept**, for the whole legacy language. -/
theorem migF_grouping (l : LF) : LegacyFull.strip (migF l) = semF l := strip_migF l

/-- the two together: the tokens of the migrated text parse to a tree that, parentheses aside, is the
tree the legacy expression denotes -/
theorem migF_meaning (l : LF) (h : LegacyFull.LWF l) :
    ∃ f0, ∀ f, f0 ≤ f → (parseExpr f 0 (toks (migF l))).map (fun p => LegacyFull.strip p.1) = some (semF l) :=
  Ev.mono (migF_parses l h) fun f hf => by rw [hf]; exact congrArg some (migF_grouping l)

abbrev Row := List Char × List Char × List (List Char) × List Nat

def srcRow (x : String × String × List String × List Nat) : Row :=
  (x.1.toList, x.2.1.toList, x.2.2.1.map String.toList, x.2.2.2)

def modelRow (e : Entry) : Row := (e.name.toList, describe e)

/-- Both facts below from one evaluation of the table. -/
theorem table_checked :
    table.map modelRow = Gen.LegacyFuncs.callMigrators.map srcRow ∧ table.all entryOK = true := by
  dsimp only [Gen.LegacyFuncs.callMigrators, List.map, srcRow]
  simp (disch := with_reducible rfl) only [toList_lit]
  decide +kernel

/-- **The model's table is the source's table** (regenerated from functions.go on every run): same
functions, same migrator constructors, same template texts, new names, levels, parameter migrators
and defaults. -/
theorem table_matches_source : table.map modelRow = Gen.LegacyFuncs.callMigrators.map srcRow := table_checked.1

/-- every template of the table keeps its operator positions whatever the parameters; names are
lower case; defaults are canonical numbers -/
theorem table_wellformed : table.all entryOK = true := table_checked.2

/-- the numbers of parameters a migrator accepts without an error or garbage -/
def accepts : Mig → Nat → Bool
  | .call _, _ => true
  | .join _, k => decide (1 ≤ k)
  | .tmpl _ arity, k => decide (k = arity)
  | .params _ pms minArgs _, k => decide (minArgs ≤ k) && decide (k ≤ pms.length)

theorem migOK_of_entryOK (e : Entry) (h : entryOK e = true) (k : Nat) (ha : accepts e.mig k = true) :
    MigOK e.mig k = true := by
  obtain ⟨_, m, _⟩ := e
  cases m <;> simp_all [entryOK, MigOK, accepts]

/-- **Every call of a table function with an accepted number of well-formed parameters is well
formed**, so the three theorems above apply to it. -/
theorem table_calls_wellformed (e : Entry) (he : e ∈ table) (args : LFArgs) (ha : accepts e.mig args.length = true)
    (hargs : LegacyFull.LWFArgs args) : LegacyFull.LWF (.fn e.mig args) :=
  ⟨migOK_of_entryOK e (List.all_eq_true.1 table_wellformed e he) _ ha, hargs⟩

/-- a function the table does not know is kept as a call of the same (lower-cased) name -/
theorem unknown_function_kept (name : List Char) (hn : lowerName name = name) (args : LFArgs)
    (hargs : LegacyFull.LWFArgs args) : LegacyFull.LWF (.fn (.call name) args) :=
  ⟨beq_iff_eq.2 hn, hargs⟩

/-- the premises are met by real expressions, and the texts are the ones the Go code writes:
`RIGHT(contact.name, 2 ^ 2)`, `WORD(flow.x, contact.n + 1)`, `contact.age - (1 + 2)` (nothing known about
the operands), `SUM(1, 2) * WEEKDAY(NOW())` -/
example :
    let a := LF.fn (migOf "right") (.cons (.path "contact".toList ["name".toList]) (.cons (.bin .exp (.num ['2']) (.num ['2'])) .nil))
    let b := LF.fn (migOf "word") (.cons (.path "results".toList ["x".toList])
      (.cons (.arith .fallback false (.path "fields".toList ["n".toList]) (.num ['1'])) .nil))
    let c := LF.arith .fallback true (.path "fields".toList ["age".toList]) (.paren (.bin .add (.num ['1']) (.num ['2'])))
    let d := LF.bin .mul (.fn (migOf "sum") (.cons (.num ['1']) (.cons (.num ['2']) .nil))) (.fn (migOf "weekday") (.cons (.fn (migOf "now") .nil) .nil))
    render (migF a) = "text_slice(contact.name, -(2 ^ 2))".toList ∧
    render (migF b) = "word(results.x, legacy_add(fields.n, 1) - 1)".toList ∧
    render (migF c) = "legacy_add(fields.age, -(1 + 2))".toList ∧
    render (migF d) = "(1 + 2) * (weekday(now()) + 1)".toList := by
  simp (disch := with_reducible rfl) only [toList_lit]
  decide +kernel

end Full

section Refs
open GoflowModel.LegacyRefs GoflowModel.Expr.Full

/-- **A migrated context reference parses back to itself** (names as the printer writes them): for
every legacy reference — any segments, matched by any rule of the table or by none — the tokens of
the migrated text parse to the tree the rule means.  (`IndexOK`: an attachment index is a number as
it renders.) -/
theorem reference_migration_parses (schemes : List Seg) (raw : Bool) (segs : List Seg) (hi : IndexOK segs) :
    ∃ f0, ∀ f, f0 ≤ f →
      parseExpr f 0 (toks (migRef schemes raw segs)) = some (norm (migRef schemes raw segs), []) :=
  toks_norm _ ▸ C11.print_parse _ (ga_migRef schemes raw segs hi).1

/-- **…and is an atom**: wherever the visitor substitutes it, `operand(·, level)` leaves it alone,
and no operator around it can regroup it. -/
theorem reference_never_wrapped (schemes : List Seg) (raw : Bool) (segs : List Seg) (hi : IndexOK segs) (lvl : Nat)
    (hl : lvl ≤ 14) : LegacyFull.wrapTo lvl (migRef schemes raw segs) = migRef schemes raw segs :=
  -- an atom is at level 14, so the test `level e < lvl` of `wrapTo` fails
  have h14 := (atom_level (ga_migRef schemes raw segs hi).2).1
  if_neg (by omega)

/-- **The rules the model transcribes are the table of the source**, in its order (regenerated from
context.go on every run; `<schemesRe>` stands for the alternation of the URN schemes), and the schemes
are those of the linked gocommon. -/
theorem reference_table_as_modelled :
    Gen.LegacyRefs.mappings = [
  ("^(?:(?:flow|step)\\.)?((?:parent|child)\\.)?contact$", "${1}contact", false),
  ("^(?:(?:flow|step)\\.)?((?:parent|child)\\.)?contact\\.uuid$", "${1}contact.uuid", false),
  ("^(?:(?:flow|step)\\.)?((?:parent|child)\\.)?contact\\.id$", "${1}contact.id", false),
  ("^(?:(?:flow|step)\\.)?((?:parent|child)\\.)?contact\\.name$", "${1}contact.name", false),
  ("^(?:(?:flow|step)\\.)?((?:parent|child)\\.)?contact\\.first_name$", "${1}contact.first_name", false),
  ("^(?:(?:flow|step)\\.)?((?:parent|child)\\.)?contact\\.created_on$", "${1}contact.created_on", false),
  ("^(?:(?:flow|step)\\.)?((?:parent|child)\\.)?contact\\.language$", "${1}contact.language", false),
  ("^(?:(?:flow|step)\\.)?((?:parent|child)\\.)?contact\\.groups$", "join(${1}contact.groups, \",\")", false),
  ("^(?:(?:flow|step)\\.)?((?:parent|child)\\.)?contact\\.tel_e164$", "default(urn_parts(${1}urns.tel).path, \"\")", false),
  ("^(?:(?:flow|step)\\.)?((?:parent|child)\\.)?contact\\.tel$", "format_urn(${1}urns.tel)", false),
  ("^(?:(?:flow|step)\\.)?((?:parent|child)\\.)?contact\\.(<schemesRe>)$", "default(urn_parts(${1}urns.$2).path, \"\")", false),
  ("^(?:(?:flow|step)\\.)?((?:parent|child)\\.)?contact\\.(<schemesRe>)\\.display$", "format_urn(${1}urns.$2)", false),
  ("^(?:(?:flow|step)\\.)?((?:parent|child)\\.)?contact\\.(<schemesRe>)\\.path$", "urn_parts(${1}urns.$2).path", false),
  ("^(?:(?:flow|step)\\.)?((?:parent|child)\\.)?contact\\.(<schemesRe>)\\.scheme$", "urn_parts(${1}urns.$2).scheme", false),
  ("^(?:(?:flow|step)\\.)?((?:parent|child)\\.)?contact\\.(<schemesRe>)\\.urn$", "${1}urns.$2", false),
  ("^(?:(?:flow|step)\\.)?((?:parent|child)\\.)?contact\\.(\\w+)$", "${1}fields.$2", false),
  ("^flow$", "results", false),
  ("^flow\\.(\\w+)$", "results.$1", false),
  ("^flow\\.(\\w+)\\.value$", "results.$1.value", false),
  ("^flow\\.(\\w+)\\.category$", "results.$1.category_localized", false),
  ("^flow\\.(\\w+)\\.text$", "results.$1.input", false),
  ("^flow\\.(\\w+)\\.time$", "results.$1.created_on", false),
  ("^child$", "child.results", false),
  ("^child\\.(\\w+)$", "child.results.$1", false),
  ("^child\\.(\\w+)\\.value$", "child.results.$1.value", false),
  ("^child\\.(\\w+)\\.category$", "child.results.$1.category_localized", false),
  ("^child\\.(\\w+)\\.text$", "child.results.$1.input", false),
  ("^child\\.(\\w+)\\.time$", "child.results.$1.created_on", false),
  ("^(?:parent|extra\\.flow)$", "parent.results", false),
  ("^(?:parent|extra\\.flow)\\.(\\w+)$", "parent.results.$1", false),
  ("^(?:parent|extra\\.flow)\\.(\\w+)\\.value$", "parent.results.$1.value", false),
  ("^(?:parent|extra\\.flow)\\.(\\w+)\\.category$", "parent.results.$1.category_localized", false),
  ("^(?:parent|extra\\.flow)\\.(\\w+)\\.text$", "parent.results.$1.input", false),
  ("^(?:parent|extra\\.flow)\\.(\\w+)\\.time$", "parent.results.$1.created_on", false),
  ("^step(\\.value)?$", "input", false),
  ("^step\\.text$", "input.text", false),
  ("^step\\.time$", "input.created_on", false),
  ("^step\\.attachments$", "foreach(foreach(input.attachments, attachment_parts), extract, \"url\")", false),
  ("^step\\.attachments\\.(\\d+)$", "attachment_parts(input.attachments[$1]).url", false),
  ("^channel$", "contact.channel.address", false),
  ("^channel\\.(address|tel|tel_e164)$", "contact.channel.address", false),
  ("^channel\\.name$", "contact.channel.name", false),
  ("^date(\\.now)?$", "now()", false),
  ("^date\\.today$", "today()", true),
  ("^date\\.tomorrow$", "datetime_add(now(), 1, \"D\")", true),
  ("^date\\.yesterday$", "datetime_add(now(), -1, \"D\")", true),
  ("^extra$", "legacy_extra", false),
  ("^extra\\.([\\w\\.]+)$", "legacy_extra.${1}", false)
] ∧
    Gen.LegacyRefs.schemes = ["discord", "mailto", "ext", "facebook", "fcm", "freshchat", "instagram", "jiochat", "line", "tel", "rocketchat", "slack", "telegram", "twitter", "twitterid", "viber", "vk", "webchat", "wechat", "whatsapp"] :=
  ⟨rfl, rfl⟩

/-- the premise is met and the texts are the ones the Go code writes -/
example :
    let sch := Gen.LegacyRefs.schemes.map String.toList
    render (migRef sch false ["flow".toList, "contact".toList, "tel".toList]) = "format_urn(urns.tel)".toList ∧
    render (migRef sch false ["step".toList, "attachments".toList, "0".toList]) = "attachment_parts(input.attachments[0]).url".toList ∧
    render (migRef sch true ["child".toList, "color".toList, "category".toList]) = "child.results.color.category_localized".toList ∧
    render (migRef sch false ["parent".toList, "contact".toList, "twitterid".toList, "urn".toList]) = "parent.urns.twitterid".toList ∧
    IndexOK ["step".toList, "attachments".toList, "0".toList] := by
  simp (disch := with_reducible rfl) only [IndexOK, Gen.LegacyRefs.schemes, List.map, toList_lit]
  decide +kernel

end Refs

end GoflowModel.Props.C17
