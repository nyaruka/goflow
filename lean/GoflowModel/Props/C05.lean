import GoflowModel.Lemmas.EngineSteps
import GoflowModel.Lemmas.EngineTerm
import GoflowModel.Engine.Truncate
import GoflowModel.Gen.Engine
import GoflowModel.Props.C10
import GoflowModel.Props.C01
/-!
# C05 — Sprints terminate within the configured limits

Engine model as in C01.  Proved here, for every asset list, oracle, option value and history:
the number of steps a call creates never exceeds `max 0 MaxStepsPerSprint` (also when the call
returns a Go error); a resume attempted when the number of waits has reached
`MaxResumesPerSession` does nothing but fail the session; the truncation functions respect
their limits for **every** limit value (the `none` = panic case of `TruncateEllipsis` is
unreachable from `templateTruncate`).

Termination itself: the model's loop takes fuel, and `start_terminates` / `resume_terminates`
prove that the fuel `fuelFor` always suffices — for every graph (cycles, mutual and terminal
enters, empty and missing flows), every oracle and every option value, including zero and
negative step limits.  The measure: visiting a node uses up one of the `MaxStepsPerSprint`
steps; finishing a run moves to a run created earlier; past the limit only the unwinding of the
failed run's ancestors is left.  `start_limit_fails` / `resume_limit_fails`: a call in which some
iteration wants to go on but has used up its steps can only end with a failed session whose
sprint holds a failure event — never with a Go error caused by the limit, never by hanging.
The implementation's own termination is watched by the monitors under a wall-clock budget.
-/
namespace GoflowModel.Props.C05
open GoflowModel.Engine GoflowModel.Truncate

/-- A start creates at most `max 0 MaxStepsPerSprint` steps, whatever it returns. -/
theorem start_steps_bounded (a : Assets) (o : Opts) (orc : Oracle) (st : St)
    (h : start a o orc = .ok st ∨ start a o orc = .goErr st) :
    totalSteps st.s ≤ (max 0 o.maxSteps).toNat := by
  have := start_steps a o orc
  rcases h with h | h <;> rw [h] at this <;> exact maxBudget_eq_max o ▸ this

/-- A resume adds at most `max 0 MaxStepsPerSprint` steps to the session, whatever it returns. -/
theorem resume_steps_bounded (a : Assets) (o : Opts) (orc : Oracle) (s : Session) (k : ResumeKind) (st : St)
    (h : resume a o orc s k = .ok st ∨ resume a o orc s k = .goErr st) :
    totalSteps st.s ≤ totalSteps s + (max 0 o.maxSteps).toNat := by
  have := resume_steps a o orc s k
  rcases h with h | h <;> rw [h] at this <;> exact maxBudget_eq_max o ▸ this

/-- non-vacuity: with `MaxStepsPerSprint = 1` a self-looping node is visited once -/
example : ∃ st, start [some ⟨[⟨[some 0], false, none⟩]⟩] ⟨1, 500⟩
    { initEvents := [], initErr := false, initFlow := 0, applyBase := [], applyGroups := [],
      visit := fun _ _ => some ⟨[], none, .done, false, .exit (some 0)⟩, late := fun _ _ => none } = .ok st ∧
    totalSteps st.s = 1 ∧ st.s.status = .failed := by
  refine ⟨_, rfl, ?_, ?_⟩ <;> decide

/-- Once the waits logged in a session have reached `MaxResumesPerSession`, a resume is not
carried out: the session is failed (with a failure event), nothing else happens. -/
theorem resume_refused_at_limit (a : Assets) (o : Opts) (orc : Oracle) (s : Session) (k : ResumeKind) (w : Nat)
    (hs : s.status = .waiting) (hw : waitingRun s = some w)
    (hlim : (countWaits s : Int) ≥ o.maxResumes) :
    resume a o orc s k = .ok (failSession ⟨s, []⟩ w) :=
  C10.unrecoverable_fails a o orc s k w hs hw (Or.inr (Or.inl hlim))

/-- size limits: `Truncate` never exceeds its limit, for every limit -/
theorem truncate_len (s : List Char) (n : Nat) : (truncate s n).length ≤ n := by
  unfold truncate
  split
  · assumption
  · exact List.length_take_le ..

/-- `TruncateEllipsis` respects the limit whenever it does not panic, and panics exactly when
`limit < 3` and the text is longer than the limit -/
theorem truncateEllipsis_len (s : List Char) (n : Nat) (t : List Char) (h : truncateEllipsis s n = some t) :
    t.length ≤ n := by
  unfold truncateEllipsis at h
  split at h
  next hle => cases h; exact hle
  next =>
    split at h
    next => cases h
    next => cases h; simp; omega

theorem truncateEllipsis_panics_iff (s : List Char) (n : Nat) :
    truncateEllipsis s n = none ↔ (n < s.length ∧ n < 3) := by
  unfold truncateEllipsis
  split
  · simp; omega
  · split <;> simp <;> omega

theorem truncateEllipsis_bounded (s : List Char) (n : Nat) (h : 3 ≤ n) :
    ∃ t, truncateEllipsis s n = some t ∧ t.length ≤ n := by
  cases ht : truncateEllipsis s n with
  | none => rw [truncateEllipsis_panics_iff] at ht; omega
  | some t => exact ⟨t, rfl, truncateEllipsis_len _ _ _ ht⟩

/-- the evaluated-template limit as applied by the engine: never a panic, never longer than
`MaxTemplateChars`, for every option value (negative values are clamped to zero) -/
theorem template_bounded (s : List Char) (maxTemplateChars : Int) :
    ∃ t, templateTruncate s (clampLimit maxTemplateChars) = some t ∧ t.length ≤ clampLimit maxTemplateChars := by
  unfold templateTruncate
  split
  next h3 => exact truncateEllipsis_bounded _ _ h3
  next => exact ⟨_, rfl, truncate_len _ _⟩

/-- quick replies: the constant limit 64 leaves room for the ellipsis -/
theorem quick_reply_bounded (s : List Char) :
    ∃ t, truncateEllipsis s maxQuickReplyLength = some t ∧ t.length ≤ 64 :=
  truncateEllipsis_bounded s 64 (by decide)

/-- the defect repaired by the `fix:` commit: before it, `TruncateEllipsis` was applied for
every limit — e.g. `MaxTemplateChars = 2` panicked on a three-character text -/
theorem ellipsis_small_limit_witness : truncateEllipsis ['a', 'b', 'c'] 2 = none := by decide

/-- A start terminates: the fuel the model gives its loop always suffices. -/
theorem start_terminates (a : Assets) (o : Opts) (orc : Oracle) : start a o orc ≠ .outOfFuel :=
  Engine.start_terminates a o orc

/-- A resume of any session the engine can have handed back terminates. -/
theorem resume_terminates (a : Assets) (o : Opts) (orc : Oracle) (s : Session) (k : ResumeKind)
    (h : C01.Reachable a o s) : resume a o orc s k ≠ .outOfFuel := by
  have p := C01.reachable_post a o s h
  exact Engine.resume_terminates a o orc s k p.ok p.pushed p.pbc

/-- the state in which `start` enters its loop (`Engine.startLoop`, with which `start_eq` is stated, written out) -/
def startLoop (orc : Oracle) : Loop :=
  { st := { s := { emptySession with pushed := some ⟨orc.initFlow, false⟩ },
            sp := (logSprintOnly ⟨emptySession, []⟩ orc.initEvents).sp },
    cur := none, exit := none, step := none, n := 0 }

/-- whether a start hits the step limit: some iteration of its loop has a node to go to and no
step left -/
def startHitsLimit (a : Assets) (o : Opts) (orc : Oracle) : Bool :=
  !orc.initErr && hitsLimit a o orc (fuelFor o emptySession) (startLoop orc)

/-- Hitting the limit ends the session as failed, with a failure event in the sprint. -/
theorem start_limit_fails (a : Assets) (o : Opts) (orc : Oracle) (st : St)
    (hh : startHitsLimit a o orc = true) (h : start a o orc = .ok st) :
    st.s.status = .failed ∧ ∃ se ∈ st.sp, se.ev.kind = failureKind := by
  unfold startHitsLimit at hh
  simp only [Bool.and_eq_true, Bool.not_eq_true'] at hh
  rw [start_eq, if_neg (by simp [hh.1])] at h
  exact loop_hitsLimit a o orc 0 _ (startLoop orc) (Core_start orc) (LTerm_init o (startLoop orc) rfl) hh.2 st h

/-- The same for a resume of any session the engine can have handed back: `resumeLoop` is the
loop the resume enters once the resume has been accepted and applied. -/
theorem resume_limit_fails (a : Assets) (o : Opts) (orc : Oracle) (s : Session) (k : ResumeKind) (st : St)
    (hr : C01.Reachable a o s) (fuel : Nat) (l : Loop) (hl : resumeLoop a o orc s k = some (fuel, l))
    (hh : hitsLimit a o orc fuel l = true) (h : resume a o orc s k = .ok st) :
    st.s.status = .failed ∧ ∃ se ∈ st.sp, se.ev.kind = failureKind := by
  have p := C01.reachable_post a o s hr
  obtain ⟨he, w, step, st', e, hw, hf, rfl, rfl⟩ := resumeLoop_out hl
  rw [he] at h
  exact loop_hitsLimit a o orc _ _ _ (Core_resume p.ok p.pushed p.pbc hw hf) (LTerm_init o _ rfl) hh st h

/-- non-vacuity: with `MaxStepsPerSprint = 1` the self-looping node hits the limit, and the
session ends failed -/
example : startHitsLimit [some ⟨[⟨[some 0], false, none⟩]⟩] ⟨1, 500⟩
    { initEvents := [], initErr := false, initFlow := 0, applyBase := [], applyGroups := [],
      visit := fun _ _ => some ⟨[], none, .done, false, .exit (some 0)⟩, late := fun _ _ => none } = true := by
  decide

/-- tie to the source: the option defaults the model assumes are the engine's -/
theorem option_defaults_as_modelled :
    Gen.Engine.defaultMaxSteps = 100 ∧ Gen.Engine.defaultMaxResumes = 500 ∧
    Gen.Engine.defaultMaxTemplateChars = 10000 ∧ Gen.Engine.defaultMaxFieldChars = 640 ∧
    Gen.Engine.defaultMaxResultChars = 640 := by decide

end GoflowModel.Props.C05
