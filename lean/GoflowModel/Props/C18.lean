import GoflowModel.Engine.Localize
/-!
# C18 — Localized text is chosen by the documented language fallback
-/
namespace GoflowModel.Props.C18
open GoflowModel.Localize

/-- preference order: the contact's language iff it is allowed, then the environment default
(if different), then the flow's base language -/
theorem pref_order_contact_allowed (c : Cfg) (l : Lang) (hc : c.contactLang = some l)
    (ha : c.allowed.contains l = true) :
    languages c = [l] ++ (match c.allowed.head? with
      | some d => if d ≠ l then [d] else []
      | none => []) ++ [c.flowLang] := by
  simp only [languages, mergedDefault, envDefault, hc, ha, if_true, Option.toList_some]
  cases c.allowed.head? <;> simp

theorem pref_order_contact_not_allowed (c : Cfg)
    (h : ∀ l, c.contactLang = some l → c.allowed.contains l = false) :
    languages c = c.allowed.head?.toList ++ [c.flowLang] := by
  have hm : mergedDefault c = c.allowed.head? := by
    unfold mergedDefault envDefault
    split
    · next l hl => rw [h l hl]; rfl
    · rfl
  simp only [languages, hm, envDefault]
  cases c.allowed.head? <;> simp

/-- the base language, when reached, ends the search with the base text -/
theorem base_language_wins (fl : Lang) (tr : Lang → Option (List Text)) (native : List Text) (ls : List Lang) :
    getTextIn fl tr native (fl :: ls) = (native, fl) := by
  simp [getTextIn]

/-- a language with a usable translation, when reached, wins -/
theorem translation_wins (fl l : Lang) (tr : Lang → Option (List Text)) (native t : List Text) (ls : List Lang)
    (hne : l ≠ fl) (hu : usable (tr l) = some t) :
    getTextIn fl tr native (l :: ls) = (t, l) := by
  simp [getTextIn, hne, hu]

/-- a language without one is skipped -/
theorem untranslated_skipped (fl l : Lang) (tr : Lang → Option (List Text)) (native : List Text) (ls : List Lang)
    (hne : l ≠ fl) (hu : usable (tr l) = none) :
    getTextIn fl tr native (l :: ls) = getTextIn fl tr native ls := by
  simp [getTextIn, hne, hu]

theorem getTextIn_skip {fl : Lang} {tr : Lang → Option (List Text)} {pre : List Lang} (native : List Text) (ls : List Lang)
    (h : ∀ x ∈ pre, x ≠ fl ∧ usable (tr x) = none) :
    getTextIn fl tr native (pre ++ ls) = getTextIn fl tr native ls := by
  induction pre with
  | nil => rfl
  | cons x pre ih =>
    have hx := h x List.mem_cons_self
    rw [List.cons_append, untranslated_skipped fl x tr native _ hx.1 hx.2]
    exact ih fun y hy => h y (List.mem_cons_of_mem _ hy)

/-- first wins: the result is the text of the first preference that is the base language or
has a usable translation; with none, the base text (for every preference list) -/
theorem first_wins (fl : Lang) (tr : Lang → Option (List Text)) (native : List Text) (pre post : List Lang)
    (l : Lang) (hpre : ∀ x ∈ pre, x ≠ fl ∧ usable (tr x) = none)
    (hl : l = fl ∨ (usable (tr l)).isSome) :
    getTextIn fl tr native (pre ++ l :: post) =
      if l = fl then (native, fl) else ((usable (tr l)).getD native, l) := by
  rw [getTextIn_skip _ _ hpre]
  by_cases h : l = fl
  · rw [if_pos h, h, base_language_wins]
  · obtain ⟨t, ht⟩ := Option.isSome_iff_exists.1 (hl.resolve_left h)
    rw [if_neg h, translation_wins fl l tr native t post h ht, ht]
    rfl

theorem fallback_base (fl : Lang) (tr : Lang → Option (List Text)) (native : List Text) (ls : List Lang)
    (h : ∀ x ∈ ls, x ≠ fl ∧ usable (tr x) = none) :
    getTextIn fl tr native ls = (native, fl) := by
  rw [← List.append_nil ls, getTextIn_skip _ _ h, getTextIn]

/-- the `[""]` rule and the empty list count as no translation -/
theorem empty_translations_unusable : usable (some []) = none ∧ usable (some [[]]) = none ∧ usable none = none := by
  decide

/-- the reported language is the text's whenever there is text; for a text-less message the
attachments', then the quick replies' -/
theorem msg_locale_text (text atts qrs : List Text × Lang) (t : Text) (r : List Text)
    (h : text.1 = t :: r) (ht : t ≠ []) : msgLang text atts qrs = some text.2 := by
  simp [msgLang, h, ht]

theorem msg_locale_textless (text atts qrs : List Text × Lang) (r : List Text) (h : text.1 = [] :: r) :
    msgLang text atts qrs = if atts.1 ≠ [] then some atts.2 else if qrs.1 ≠ [] then some qrs.2 else none := by
  simp [msgLang, h]

/-- localized case arguments of a different length than the base arguments are ignored -/
theorem case_args_len_guard (base localized : List Text) :
    (caseArgs base localized).length = base.length := by
  unfold caseArgs; split <;> simp_all

/-- **A spoken message reports the language of its text**, whatever the recording's translations are:
the recording is localized on its own and does not enter the choice. -/
theorem say_msg_locale_is_text_language (c : Cfg) (trText trAudio trAudio' : Lang → Option (List Text))
    (text audio audio' : Text) :
    (sayMsg c trText trAudio text audio).2.2 = (getText c trText [text]).2 ∧
    (sayMsg c trText trAudio text audio).2.2 = (sayMsg c trText trAudio' text audio').2.2 ∧
    (sayMsg c trText trAudio text audio).1 = (sayMsg c trText trAudio' text audio').1 := by
  simp [sayMsg]

/-- …and the recording is chosen by the same fallback, independently of the text's translations -/
theorem say_msg_audio_independent (c : Cfg) (trText trText' trAudio : Lang → Option (List Text)) (text text' audio : Text) :
    (sayMsg c trText trAudio text audio).2.1 = (sayMsg c trText' trAudio text' audio).2.1 := by
  simp [sayMsg]

/-- text translated, recording not: the text's language is reported, the base recording is played -/
example :
    sayMsg ⟨some 2, [1, 2], 1⟩ (fun l => if l = 2 then some ["Bonjour".toList] else none) (fun _ => none)
      "Hello".toList "hello-eng.m4a".toList = ("Bonjour".toList, "hello-eng.m4a".toList, 2) := by
  decide +kernel

end GoflowModel.Props.C18
