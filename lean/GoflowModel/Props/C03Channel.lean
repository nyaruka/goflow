import GoflowModel.Contact.Channel
/-!
# C03 — the channel modifier

For every list of URNs (any schemes, any existing affinities) and every channel (or none): replaying the
emitted events over the old list gives the new list; `modified` is reported exactly when the list
changed, and then with a change event; no URN is lost, duplicated or altered in anything but its
channel; and applying the same modifier again changes and reports nothing.
-/
namespace GoflowModel.Props.C03Channel
open GoflowModel.Contact.Channel

/-- the third case is a channel that cannot send, which `update` disregards too -/
theorem apply_cases (us : List CURN) (ch : Option Chan) :
    (apply us ch = ⟨update us ch, [.urnsChanged (update us ch)], true⟩ ∧ update us ch ≠ us) ∨
    (apply us ch = ⟨us, [], false⟩ ∧ update us ch = us) ∨
    (apply us ch = ⟨us, [.error], false⟩ ∧ update us ch = us) := by
  unfold apply
  split
  · split
    · split
      · next h => exact .inl ⟨rfl, h⟩
      · next h => exact .inr (.inl ⟨rfl, Decidable.of_not_not h⟩)
    · next hs => exact .inr (.inr ⟨rfl, if_neg hs⟩)
  · split
    · next h => exact .inl ⟨rfl, h⟩
    · next h => exact .inr (.inl ⟨rfl, Decidable.of_not_not h⟩)

/-- **Replaying the events reproduces the contact's URNs.** -/
theorem channel_faithful (us : List CURN) (ch : Option Chan) : replay us (apply us ch).events = (apply us ch).urns := by
  rcases apply_cases us ch with ⟨h, _⟩ | ⟨h, _⟩ | ⟨h, _⟩ <;> rw [h] <;> rfl

/-- **`modified` ⇔ the list changed ⇔ a change event was emitted** -/
theorem channel_modified_iff (us : List CURN) (ch : Option Chan) :
    ((apply us ch).modified = true ↔ (apply us ch).urns ≠ us) ∧
    ((apply us ch).modified = true ↔ ∃ l, Ev.urnsChanged l ∈ (apply us ch).events) := by
  rcases apply_cases us ch with ⟨h, hne⟩ | ⟨h, _⟩ | ⟨h, _⟩ <;> rw [h]
  · exact ⟨by simpa using hne, by simp⟩
  · simp
  · simp

theorem assign_idem (ch : Chan) (u : CURN) : assign ch (assign ch u) = assign ch u := by
  rw [assign.eq_def ch u]
  split
  · rw [assign]; split <;> rfl
  · next h => rw [assign, if_neg h]

/-- a URN is altered in nothing but its channel -/
theorem assign_keeps (ch : Chan) (u : CURN) : (assign ch u).scheme = u.scheme ∧ (assign ch u).rest = u.rest := by
  unfold assign
  split <;> exact ⟨rfl, rfl⟩

theorem filter_partition_idem {α : Type} (p : α → Bool) (l : List α) :
    (l.filter p ++ l.filter (fun x => !p x)).filter p ++ (l.filter p ++ l.filter (fun x => !p x)).filter (fun x => !p x) =
      l.filter p ++ l.filter (fun x => !p x) := by
  have empty (l : List α) : l.filter (fun _ => false) = [] := List.filter_eq_nil_iff.2 fun _ _ => nofun
  simp only [List.filter_append, List.filter_filter, Bool.and_self, Bool.and_not_self, Bool.not_and_self, empty,
    List.append_nil, List.nil_append]

/-- **Applying the same channel again changes nothing.** -/
theorem update_idem (us : List CURN) (ch : Option Chan) : update (update us ch) ch = update us ch := by
  cases ch with
  | none => simp [update, List.map_map, Function.comp_def]
  | some c =>
    by_cases hs : c.canSend = true
    · simp only [update, if_pos hs]
      -- the first application leaves a list `l` of URNs that are assigned already, those with the channel first
      generalize hl : us.map (assign c) = l
      have hall : ∀ u ∈ l.filter (has c) ++ l.filter (fun u => !has c u), assign c u = u := fun u hu => by
        obtain ⟨v, _, rfl⟩ := List.mem_map.1 (hl ▸ (List.filter_append_perm (has c) l).subset hu)
        exact assign_idem c v
      rw [(List.map_congr_left hall).trans (List.map_id _)]
      exact filter_partition_idem (has c) l
    · simp only [update, if_neg hs]

/-- … and reports nothing the second time -/
theorem channel_idem (us : List CURN) (ch : Option Chan) :
    (apply (apply us ch).urns ch).modified = false ∧ (apply (apply us ch).urns ch).urns = (apply us ch).urns ∧
    ∀ l, Ev.urnsChanged l ∉ (apply (apply us ch).urns ch).events := by
  have key : update (apply us ch).urns ch = (apply us ch).urns := by
    rcases apply_cases us ch with ⟨h, _⟩ | ⟨h, h2⟩ | ⟨h, h2⟩ <;> rw [h]
    · exact update_idem us ch
    · exact h2
    · exact h2
  generalize (apply us ch).urns = w at key
  rcases apply_cases w ch with ⟨_, hne⟩ | ⟨h, _⟩ | ⟨h, _⟩
  · exact absurd key hne
  · rw [h]; simp
  · rw [h]; simp

/-- **No URN is lost or duplicated**: the new list is a rearrangement of the old one with channels re-assigned -/
theorem update_perm (us : List CURN) (c : Chan) : (update us (some c)).Perm (if c.canSend then us.map (assign c) else us) := by
  simp only [update]
  split
  · exact List.filter_append_perm (has c) _
  · exact List.Perm.refl _

/-- the premises are met and the statements say something: a twitter URN with the channel's affinity listed after a tel URN of
another channel moves to the front (a re-ordering only — the case of seeded change `c03-channel-reorder-unreported`) -/
example : apply [⟨tel, 7, some 1⟩, ⟨1, 8, some 3⟩] (some ⟨3, true, [1]⟩) =
    ⟨[⟨1, 8, some 3⟩, ⟨tel, 7, some 1⟩], [.urnsChanged [⟨1, 8, some 3⟩, ⟨tel, 7, some 1⟩]], true⟩ := by decide

end GoflowModel.Props.C03Channel
