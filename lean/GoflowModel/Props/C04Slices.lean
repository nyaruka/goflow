import GoflowModel.Excellent.SliceGuards
import GoflowModel.Gen.Slices
/-!
# C04 — slices of texts in built-in functions and router tests stay in range

Besides `word`, `word_slice` and `field` (`Props/C04`): the two places where a text is sliced by a
computed bound.  `has_beginning` slices the first `len(beginning)` *bytes* of the text after testing
that the text has at least that many bytes; `read_chars` slices bytes at offsets counted in
*characters*, which is in range because a text has at least as many bytes as characters.  The census of
slice expressions in both files, with the conditions that guard them, is regenerated from the source
and pinned: a new slice, or a changed guard, fails `slice_sites_as_modelled` until it is looked at.
-/
namespace GoflowModel.Props.C04Slices
open GoflowModel.SliceGuards

/-- **`has_beginning`: `hayStack[:e]` is only reached with `e ≤ len(hayStack)`**, for all lengths -/
theorem beginning_in_range (h p e : Nat) (he : beginningEnd h p = some e) : e ≤ h ∧ e = p := by
  simp only [beginningEnd, Option.ite_none_left_eq_some, Option.some.injEq] at he
  omega

/-- a guard on character counts does not protect the byte slice: the text `ok` (2 bytes, 2 characters)
against the beginning `да` (4 bytes, 2 characters) slices `[:4]` of 2 bytes — the panic of seeded change
`c04-has-beginning-rune-count`, as a theorem -/
theorem rune_guard_out_of_range : beginningEndByRunes 2 2 4 = some 4 ∧ ¬ (4 ≤ 2) := by decide

theorem chunks_in_range (c runes bytes : Nat) (h : runes ≤ bytes) :
    ∀ s ∈ (List.range (runes / c)).map (fun k => (c * k, c * k + c)), s.1 ≤ s.2 ∧ s.2 ≤ bytes := by
  simp only [List.mem_map, List.mem_range]
  rintro _ ⟨k, hk, rfl⟩
  exact ⟨Nat.le_add_right .., Nat.le_trans (Nat.mul_le_mul_left c hk) (Nat.le_trans (Nat.mul_div_le ..) h)⟩

/-- **`read_chars`: every byte range sliced is inside the text**, for every text (`runes ≤ bytes` holds of every
text: each character takes at least one byte) -/
theorem read_chars_in_range (runes bytes : Nat) (h : runes ≤ bytes) :
    ∀ s ∈ readCharsSlices runes, s.1 ≤ s.2 ∧ s.2 ≤ bytes := by
  unfold readCharsSlices
  split
  · exact chunks_in_range 3 runes bytes h
  split
  · exact chunks_in_range 4 runes bytes h
  · simp

/-- the ranges are the loop's: for six characters `[0,3)` and `[3,6)`, for eight `[0,4)` and `[4,8)`, none for seven -/
example : readCharsSlices 6 = [(0, 3), (3, 6)] ∧ readCharsSlices 8 = [(0, 4), (4, 8)] ∧ readCharsSlices 7 = [] := by decide

/-- **The slice expressions of both files, and the guards of the two modelled here, are the ones
transcribed.**  `Word`/`WordSlice`/`Field` are `Props/C04`'s; `Max`, `Min`, `ExtractObject`, `ForEach`,
`ForEachValue` slice their argument list after the arity check of their wrapper; `RemoveFirstWord`
slices at the position of a word found in the text (monitor only). -/
theorem slice_sites_as_modelled :
    Gen.Slices.sites.map (fun s => (s.2.1, s.2.2.1)) =
      [("RemoveFirstWord", "s[w1Start+len(words[0]):]"), ("RemoveFirstWord", "s[w2Start:]"),
       ("WordSlice", "words[start:end]"), ("WordSlice", "words[start:]"),
       ("Max", "values[1:]"), ("Min", "values[1:]"), ("ExtractObject", "args[1:]"), ("ForEach", "args[2:]"), ("ForEachValue", "args[2:]"),
       ("ReadChars", "val.Native()[i : i+3]"), ("ReadChars", "val.Native()[i : i+4]"),
       ("HasBeginning", "hayStack[:len(pinCushion)]")] ∧
    (Gen.Slices.sites.filter (fun s => s.2.1 == "HasBeginning" || s.2.1 == "ReadChars")).map (fun s => s.2.2.2) =
      [["length%3 == 0", "i < length", "i > 0"],
       ["length%3 == 0", "i < length", "i > 0", "length%4 == 0", "i < length", "i > 0"],
       ["hayStack == \"\" || pinCushion == \"\"", "len(hayStack) < len(pinCushion)"]] :=
  ⟨rfl, rfl⟩

/-- **An accepted number's exponent is at most 10000 in magnitude (JSON) / 1000 (contact queries)**, for every way of writing it -/
theorem accepted_exponents_bounded (fractionDigits : Nat) (e : Int) :
    (jsonNumberOk fractionDigits e = true → (decimalExponent fractionDigits e).natAbs ≤ 10000) ∧
    (queryNumberOk fractionDigits e = true → (decimalExponent fractionDigits e).natAbs ≤ 1000) := by
  simp only [jsonNumberOk, queryNumberOk, decide_eq_true_eq]
  omega

/-- the numbers of the repaired findings F-C04-g and F-C15-c are refused, ordinary ones written with an exponent are not -/
example : jsonNumberOk 0 30000000 = false ∧ queryNumberOk 0 999999999 = false ∧ queryNumberOk 0 (-30000000) = false ∧
    jsonNumberOk 1 400 = true ∧ queryNumberOk 2 5 = true ∧ queryNumberOk 1 1001 = true ∧ queryNumberOk 0 1001 = false := by decide

end GoflowModel.Props.C04Slices
