import GoflowModel.Engine.Determinism
import GoflowModel.Gen.MapRanges
/-!
# C08 — Engine output is a deterministic function of its inputs

The runtime chooses the order in which a `range` over a map yields its entries.  A loop over a map
is modelled as a function of the list of entries in the order yielded; "the output does not depend
on map iteration order" is "the function gives the same result on every permutation of that list".

* Each loop shape the engine uses is proved permutation-invariant below.
* Every `range` over a map in the engine's sources is regenerated on every run (`Gen/MapRanges`,
  by type-checking the tree) with a syntactic classification of its body; `sites_accounted` is the
  obligation that each site either has one of the proved shapes or is in the reviewed list with
  the reason it cannot influence the outputs the property names.  A new order-visible loop breaks
  this obligation.
* `getFirst_order_dependent` is the witness that the pre-repair `XObject.Get` was not invariant.
-/
namespace GoflowModel.Props.C08
open GoflowModel.Determinism List

/-- collect-then-sort does not depend on the order collected in -/
theorem collectSorted_perm {α β : Type} (le : β → β → Bool) (f : α → β)
    (trans : ∀ a b c, le a b → le b c → le a c) (total : ∀ a b, le a b || le b a)
    (antisymm : ∀ a b, le a b → le b a → a = b)
    (o₁ o₂ : List α) (p : o₁ ~ o₂) : collectSorted le f o₁ = collectSorted le f o₂ := by
  unfold collectSorted
  apply Perm.eq_of_pairwise (le := fun a b => le a b = true)
  · intro a b _ _ h1 h2; exact antisymm a b h1 h2
  · exact pairwise_mergeSort trans total _
  · exact pairwise_mergeSort trans total _
  · exact (mergeSort_perm _ le).trans ((p.map f).trans (mergeSort_perm _ le).symm)

/-- visiting in key order does not depend on the order `range` yielded -/
theorem forSorted_perm {α σ : Type} (le : α → α → Bool) (step : σ → α → σ) (init : σ)
    (trans : ∀ a b c, le a b → le b c → le a c) (total : ∀ a b, le a b || le b a)
    (antisymm : ∀ a b, le a b → le b a → a = b)
    (o₁ o₂ : List α) (p : o₁ ~ o₂) : forSorted le step init o₁ = forSorted le step init o₂ := by
  have := collectSorted_perm le id trans total antisymm o₁ o₂ p
  simp only [collectSorted, List.map_id] at this
  simp only [forSorted, this]

/-- accumulating with an operation that commutes does not depend on the order -/
theorem accumulate_perm {α σ : Type} (op : σ → α → σ) (init : σ)
    (comm : ∀ z x y, op (op z x) y = op (op z y) x) (o₁ o₂ : List α) (p : o₁ ~ o₂) :
    accumulate op init o₁ = accumulate op init o₂ :=
  p.foldl_eq' (fun x _ y _ z => comm z x y) init

/-- a map has one entry per key: the steps need only commute for *different* keys -/
theorem foldl_perm_of_keyed {α σ κ : Type} (key : α → κ) (step : σ → α → σ)
    (comm : ∀ z x y, key x ≠ key y → step (step z x) y = step (step z y) x) (init : σ) {o₁ o₂ : List α}
    (hk : ∀ x ∈ o₁, ∀ y ∈ o₁, key x = key y → x = y) (p : o₁ ~ o₂) : o₁.foldl step init = o₂.foldl step init :=
  p.foldl_eq' (fun x hx y hy z => by
    by_cases h : key x = key y
    · rw [hk x hx y hy h]
    · exact comm z x y h) init

/-- each entry writing its own key: the resulting map does not depend on the order -/
theorem writeAll_perm {V : Type} (o₁ o₂ : List (Nat × V)) (m : Nat → Option V)
    (hk : ∀ x ∈ o₁, ∀ y ∈ o₁, x.1 = y.1 → x = y) (p : o₁ ~ o₂) : writeAll o₁ m = writeAll o₂ m := by
  refine foldl_perm_of_keyed (·.1) _ (fun z x y hxy => ?_) m hk p
  funext k
  by_cases h : k = x.1
  · subst h; simp [hxy]
  · simp [h]

/-- a search whose answer is only "is there one" does not depend on the order -/
theorem any_perm {α : Type} (q : α → Bool) (o₁ o₂ : List α) (p : o₁ ~ o₂) : o₁.any q = o₂.any q := p.any_eq

/-- **`XObject.Get`** (after the repair) does not depend on the order the properties are yielded
in: for every object (one value per name), every key and every two iteration orders. -/
theorem getCI_perm {V : Type} (lower : String → String) (o₁ o₂ : List (String × V)) (key : String)
    (hk : ∀ x ∈ o₁, ∀ y ∈ o₁, x.1 = y.1 → x = y) (p : o₁ ~ o₂) :
    getCI lower o₁ key = getCI lower o₂ key := by
  refine foldl_perm_of_keyed (·.1) _ (fun z x y hxy => ?_) none hk p
  -- the least name wins either way: names are linearly ordered
  grind

/-- the lookup before the repair was order dependent: the same object, two orders, two answers -/
def lowerFoo (s : String) : String := if s = "Foo" then "foo" else s

theorem getFirst_order_dependent :
    [("Foo", 1), ("foo", 2)] ~ [("foo", 2), ("Foo", 1)] ∧
    getFirst lowerFoo [("Foo", 1), ("foo", 2)] "foo" ≠ getFirst lowerFoo [("foo", 2), ("Foo", 1)] "foo" :=
  ⟨.swap .., by decide +kernel⟩

/-- …and the repaired one answers the same on both -/
example : getCI lowerFoo [("Foo", 1), ("foo", 2)] "foo" = getCI lowerFoo [("foo", 2), ("Foo", 1)] "foo" := by decide +kernel

/-- Order-visible by syntax, reviewed by hand: (file, function, ranged expression, digest of the
loop's text as reviewed) and why the order cannot reach the outputs the property names.  An
edit to a reviewed loop changes its digest and asks for the review again.  The external service
adapters under `services/` are not scanned: what they return is an input of the engine. -/
def reviewed : List (String × String × String × String × String) := [
  ("excellent/functions/builtin.go", "init", "builtin", "edb8026612dd", "registers each function under its own name: write-each-key"),
  ("flows/routers/cases/tests.go", "init", "builtin", "28e2d20f94f3", "registers each test under its own name: write-each-key"),
  ("excellent/types/object.go", "*XObject.Get", "x.properties()", "e602c543c991", "keeps the match whose name sorts first: getCI_perm"),
  ("excellent/types/object.go", "*XObject.ensureInitialized", "props", "49af7fd454e3", "copies each property under its own name; one key is the default: write-each-key"),
  ("flows/definition/assets.go", "*flowAssets.FindByName", "a.cache", "c9c200dbb893", "first cached flow whose name matches ignoring case; flow names are unique within a workspace's assets (asset precondition)"),
  ("flows/definition/legacy/definition.go", "migrateAction", "media", "96ab62ace8a6", "rewrites media[lang] in place: write-each-key"),
  ("flows/definition/legacy/definition.go", "migrateRuleSet", "countryConfigs", "7cd9a801a3fd", "write-each-key by currency; two entries for one currency raise the same constant error in any order"),
  ("flows/definition/legacy/utils.go", "TransformTranslations", "items[i]", "f122d89718cc", "writes slot i of each language's own slice: write-each-key"),
  ("flows/definition/legacy/v13.go", "migratedLocalization.addTranslationMap", "mapped", "404377fc7906", "adds a translation under each language's own key: write-each-key"),
  ("flows/definition/legacy/v13.go", "migratedLocalization.addTranslationMultiMap", "mapped", "3d621ffa4ae5", "adds a translation under each language's own key: write-each-key"),
  ("flows/definition/localization.go", "languageTranslation.Enumerate", "t", "063887de2082", "no caller in the engine"),
  ("flows/definition/localization.go", "languageTranslation.Enumerate", "it", "3f5f17f625f3", "no caller in the engine"),
  ("flows/definition/migrations/13_x.go", "Migrate13_5", "localizedVariables", "d39a74dff870", "sets each language's own translation: write-each-key"),
  ("flows/field.go", "NewFieldValues", "values", "a40c4dc58427", "calls the host's missing-asset callback per unknown key; the callback is not one of the outputs (events, segments, session JSON)"),
  ("utils/jsonpath/path.go", "visit", "typed", "ed766070decf", "rewrites typed[k] per key with the template rewriter (its only caller, pure per value), or descends: write-each-key")
]

def isReviewed (file fn expr digest : String) : Bool :=
  reviewed.any fun r => r.1 == file && r.2.1 == fn && r.2.2.1 == expr && r.2.2.2.1 == digest

/-- **Every map iteration is accounted for.** -/
theorem sites_accounted :
    Gen.MapRanges.sites.all (fun s => s.2.2.2.2.2.1 || isReviewed s.1 s.2.1 s.2.2.1 s.2.2.2.2.2.2) = true := by
  decide +kernel

/-- the scan is not empty and still sees the sites the repairs touched, as sorted loops -/
theorem repaired_sites_sorted :
    (Gen.MapRanges.sites.filter fun s => s.2.2.2.2.1 == "sorted-after").map (fun s => (s.2.1, s.2.2.1)) ⊇
      [("*CallWebhookAction.headerNames", "a.Headers"), ("localization.Languages", "l"), ("Localization.Languages", "l"),
       ("Check", "RegisteredTypes"), ("extractTemplates", "typed"), ("*TemplateTranslation.Preview", "compVars")] := by
  decide +kernel

end GoflowModel.Props.C08
