import GoflowModel.Lemmas.GroupLoops
/-!
# C03 — Every contact change is announced by an event that reproduces it

Per modifier `k` over `Contact/Model.lean`: `k_faithful` (replaying the emitted events over the contact as it was
reproduces the contact afterwards; modified ⇔ the contact changed; modified ⇔ a change event was emitted) and `k_idem`
(a second application changes and reports nothing).
-/
namespace GoflowModel.Props.C03
open GoflowModel.Contact

def Faithful (c : Contact) (o : Out) : Prop :=
  replayAll c o.events = o.contact ∧ (o.modified = true ↔ o.contact ≠ c) ∧
  (o.modified = true ↔ o.events.any Ev.isChange = true)

theorem replayAll_append (c : Contact) (a b : List Ev) : replayAll c (a ++ b) = replayAll (replayAll c a) b :=
  List.foldl_append ..

theorem replay_errors (c : Contact) (evs : List Ev) (h : ∀ e ∈ evs, e = .error) : replayAll c evs = c :=
  evs.foldlRecOn (motive := (· = c)) replay rfl fun c' hc e he => by rw [hc, h e he]; rfl

/-- What every modifier returns: the errors it met, then, if it changed the contact, the one event that says so. -/
def report (c c' : Contact) (errs : List Ev) (e : Ev) (p : Prop) [Decidable p] : Out :=
  if p then ⟨c', errs ++ [e], true⟩ else ⟨c, errs, false⟩

theorem report_faithful {c c' : Contact} {errs : List Ev} {e : Ev} {p : Prop} [Decidable p]
    (herr : ∀ x ∈ errs, x = .error) (hr : replay c e = c') (he : e.isChange = true) (hp : p → c' ≠ c) :
    Faithful c (report c c' errs e p) := by
  have hany : errs.any Ev.isChange = false := List.any_eq_false.2 fun x hx => by rw [herr x hx]; nofun
  unfold report
  split
  · next h => exact ⟨by rw [replayAll_append, replay_errors c _ herr]; exact hr, by simpa using hp h, by simp [he]⟩
  · exact ⟨replay_errors c _ herr, by simp, by simp [hany]⟩

theorem report_events {c c' : Contact} {errs : List Ev} {e : Ev} {p : Prop} [Decidable p]
    (herr : ∀ x ∈ errs, x = .error) :
    ((report c c' errs e p).modified = true → e ∈ (report c c' errs e p).events) ∧
    (∀ x ∈ (report c c' errs e p).events, x ≠ .error → (report c c' errs e p).modified = true) := by
  unfold report
  split
  · exact ⟨fun _ => List.mem_append_right _ (.head _), fun _ _ _ => rfl⟩
  · exact ⟨nofun, fun x hx hne => absurd (herr x hx) hne⟩

theorem report_idem (f : Contact → Out) {set : Contact → Contact} {errs : Contact → List Ev} {e : Contact → Ev}
    {p : Contact → Prop} [DecidablePred p] (hf : ∀ c, f c = report c (set c) (errs c) (e c) (p c))
    (hset : ∀ c, p c → ¬ p (set c)) (c : Contact) :
    f (f c).contact = ⟨(f c).contact, errs (f c).contact, false⟩ := by
  by_cases h : p c
  · have : (f c).contact = set c := by rw [hf, report, if_pos h]
    rw [this, hf, report, if_neg (hset c h)]
  · have : f c = ⟨c, errs c, false⟩ := by rw [hf, report, if_neg h]
    rw [this, this]

/- `applyName c n` unfolds to `report c { c with name := n } [] (.nameChanged n) (c.name ≠ n)`: unifying with that is how
`report_faithful` and `report_idem` (whose `fun _ => rfl` is this equation) find `c'`, `errs`, `e` and `p`.  Likewise for
every modifier below that has no `apply…_eq` of its own. -/
theorem name_faithful (c : Contact) (n : List Char) : Faithful c (applyName c n) :=
  report_faithful (List.forall_mem_nil _) rfl rfl fun h e => h (congrArg Contact.name e).symm

theorem name_idem (c : Contact) (n : List Char) :
    applyName (applyName c n).contact n = ⟨(applyName c n).contact, [], false⟩ :=
  report_idem (applyName · n) (fun _ => rfl) (fun _ _ => not_not_intro rfl) c

theorem language_faithful (c : Contact) (l : Nat) : Faithful c (applyLanguage c l) :=
  report_faithful (List.forall_mem_nil _) rfl rfl fun h e => h (congrArg Contact.language e).symm

theorem language_idem (c : Contact) (l : Nat) :
    applyLanguage (applyLanguage c l).contact l = ⟨(applyLanguage c l).contact, [], false⟩ :=
  report_idem (applyLanguage · l) (fun _ => rfl) (fun _ _ => not_not_intro rfl) c

theorem status_faithful (c : Contact) (s : Status) : Faithful c (applyStatus c s) :=
  report_faithful (List.forall_mem_nil _) rfl rfl fun h e => h (congrArg Contact.status e).symm

theorem status_idem (c : Contact) (s : Status) :
    applyStatus (applyStatus c s).contact s = ⟨(applyStatus c s).contact, [], false⟩ :=
  report_idem (applyStatus · s) (fun _ => rfl) (fun _ _ => not_not_intro rfl) c

theorem timezone_faithful (c : Contact) (t : Nat) : Faithful c (applyTimezone c t) :=
  report_faithful (List.forall_mem_nil _) rfl rfl fun h e => h (congrArg Contact.timezone e).symm

theorem timezone_idem (c : Contact) (t : Nat) :
    applyTimezone (applyTimezone c t).contact t = ⟨(applyTimezone c t).contact, [], false⟩ :=
  report_idem (applyTimezone · t) (fun _ => rfl) (fun _ _ => not_not_intro rfl) c

theorem applyTicket_eq (c : Contact) (t : Nat) :
    applyTicket c t = report c { c with ticket := some t } [] (.ticketOpened t) (c.ticket = none) := by
  unfold applyTicket report
  cases c.ticket <;> rfl

theorem ticket_faithful (c : Contact) (t : Nat) : Faithful c (applyTicket c t) :=
  applyTicket_eq c t ▸ report_faithful (List.forall_mem_nil _) rfl rfl fun h e => nomatch (congrArg Contact.ticket e).trans h

theorem ticket_idem (c : Contact) (t : Nat) :
    applyTicket (applyTicket c t).contact t = ⟨(applyTicket c t).contact, [], false⟩ :=
  report_idem (applyTicket · t) (applyTicket_eq · t) (fun _ _ => nofun) c

theorem getField_setField (fs : List (Nat × Nat)) (k : Nat) (v : Option Nat) :
    getField (setField fs k v) k = v := by
  unfold getField setField
  have hnone : (fs.filter (·.1 ≠ k)).lookup k = none :=
    List.lookup_eq_none_iff.2 fun p hp => bne_iff_ne.2 fun e => of_decide_eq_true (List.mem_filter.1 hp).2 e.symm
  cases v with
  | none => exact hnone
  | some x => rw [List.lookup_append, hnone]; simp

theorem field_faithful (c : Contact) (k : Nat) (v : Option Nat) : Faithful c (applyField c k v) :=
  report_faithful (List.forall_mem_nil _) rfl rfl fun h e =>
    h ((getField_setField c.fields k v).symm.trans (congrArg (getField ·.fields k) e))

theorem field_idem (c : Contact) (k : Nat) (v : Option Nat) :
    applyField (applyField c k v).contact k v = ⟨(applyField c k v).contact, [], false⟩ :=
  report_idem (applyField · k v) (fun _ => rfl) (fun c _ => not_not_intro (getField_setField c.fields k v).symm) c

/-! URNs: a URN that does not validate leaves an error event and changes nothing; the `contact_urns_changed` event
carries the whole resulting list. -/

def urnStep (m : URNsMod) (us : List URN) (u : URN) : List URN :=
  if m = .remove then us.filter (·.identity ≠ u.identity) else if hasURN us u then us else us ++ [u]

theorem urnsLoop_some (m : URNsMod) (us : List URN) (u : URN) (l : List (Option URN)) :
    urnsLoop m us (some u :: l) = urnsLoop m (urnStep m us u) l := by
  cases m <;> rfl

theorem urnsLoop_none (m : URNsMod) (us : List URN) (l : List (Option URN)) :
    urnsLoop m us (none :: l) = ((urnsLoop m us l).1, .error :: (urnsLoop m us l).2) :=
  rfl

theorem urnsLoop_errors (m : URNsMod) (us : List URN) (l : List (Option URN)) :
    ∀ e ∈ (urnsLoop m us l).2, e = .error := by
  induction l generalizing us with
  | nil => exact List.forall_mem_nil _
  | cons x l ih =>
    cases x with
    | none => rw [urnsLoop_none]; exact List.forall_mem_cons.2 ⟨rfl, ih us⟩
    | some u => rw [urnsLoop_some]; exact ih _

theorem urns_faithful (c : Contact) (m : URNsMod) (urns : List (Option URN)) :
    Faithful c (applyURNs c m urns) :=
  report_faithful (urnsLoop_errors m _ urns) rfl rfl fun h e => h (congrArg Contact.urns e)

/-- the loop has nothing left to do for `u`: it is there, or for `remove` it is not -/
def settled (m : URNsMod) (us : List URN) (u : URN) : Prop := hasURN us u = (m != .remove)

theorem settled_urnStep {m : URNsMod} {us : List URN} {u v : URN} (h : settled m us u ∨ u = v) :
    settled m (urnStep m us v) u := by
  unfold settled urnStep at *
  by_cases hm : m = .remove
  · rw [if_pos hm, hm, hasURN, bne_self_eq_false, List.any_eq_false]
    intro x hx
    have ⟨hxu, hxv⟩ := List.mem_filter.1 hx
    rcases h with h | rfl
    · rw [hm] at h; exact List.any_eq_false.1 h x hxu
    · simpa using hxv
  · rw [if_neg hm, bne_iff_ne.2 hm] at *
    split
    · next hv => exact h.elim id (· ▸ hv)
    · rw [hasURN, List.any_append]
      rcases h with h | rfl
      · rw [← hasURN, h]; rfl
      · simp

theorem urnStep_fixed {m : URNsMod} {us : List URN} {u : URN} (h : settled m us u) : urnStep m us u = us := by
  unfold settled urnStep at *
  by_cases hm : m = .remove
  · rw [if_pos hm, List.filter_eq_self]
    rw [hm] at h
    intro x hx
    simpa using List.any_eq_false.1 h x hx
  · rw [if_neg hm, h, bne_iff_ne.2 hm, if_pos rfl]

theorem settled_urnsLoop {m : URNsMod} {u : URN} {l : List (Option URN)} {us : List URN}
    (h : settled m us u) : settled m (urnsLoop m us l).1 u := by
  induction l generalizing us with
  | nil => exact h
  | cons x l ih =>
    cases x with
    | none => exact ih h
    | some v => rw [urnsLoop_some]; exact ih (settled_urnStep (.inl h))

theorem urnsLoop_again (m : URNsMod) (us : List URN) (l : List (Option URN)) :
    (urnsLoop m (urnsLoop m us l).1 l).1 = (urnsLoop m us l).1 := by
  induction l generalizing us with
  | nil => rfl
  | cons x l ih =>
    cases x with
    | none => exact ih us
    | some v =>
      rw [urnsLoop_some, urnsLoop_some, urnStep_fixed (settled_urnsLoop (settled_urnStep (.inr rfl)))]
      exact ih _

theorem urnsResult_again (c : Contact) (m : URNsMod) (urns : List (Option URN)) :
    (urnsResult { c with urns := (urnsResult c m urns).1 } m urns).1 = (urnsResult c m urns).1 := by
  unfold urnsResult
  split
  · rfl
  · exact urnsLoop_again m c.urns urns

theorem urns_idem (c : Contact) (m : URNsMod) (urns : List (Option URN)) :
    applyURNs (applyURNs c m urns).contact m urns =
      ⟨(applyURNs c m urns).contact, (urnsResult (applyURNs c m urns).contact m urns).2, false⟩ :=
  report_idem (applyURNs · m urns) (fun _ => rfl) (fun c _ => not_not_intro (urnsResult_again c m urns)) c

theorem urns_set_idem (c : Contact) (urns : List (Option URN)) :
    (applyURNs (applyURNs c .set urns).contact .set urns).modified = false ∧
    (applyURNs (applyURNs c .set urns).contact .set urns).contact = (applyURNs c .set urns).contact := by
  rw [urns_idem]; exact ⟨rfl, rfl⟩

theorem urns_append_idem (c : Contact) (urns : List (Option URN)) :
    (applyURNs (applyURNs c .append urns).contact .append urns).modified = false ∧
    (applyURNs (applyURNs c .append urns).contact .append urns).contact = (applyURNs c .append urns).contact := by
  rw [urns_idem]; exact ⟨rfl, rfl⟩

theorem urns_remove_idem (c : Contact) (urns : List (Option URN)) :
    (applyURNs (applyURNs c .remove urns).contact .remove urns).modified = false ∧
    (applyURNs (applyURNs c .remove urns).contact .remove urns).contact = (applyURNs c .remove urns).contact := by
  rw [urns_idem]; exact ⟨rfl, rfl⟩

/-- contacts that are not active are refused; the refusal changes nothing -/
theorem groups_refused (isQuery : Nat → Bool) (c : Contact) (add : Bool) (gs : List Nat)
    (h : c.status ≠ .active) :
    applyGroups isQuery c add gs = ⟨c, [.error], false⟩ := by
  simp [applyGroups, h]

def groupsLoop (isQuery : Nat → Bool) (add : Bool) : List Nat → List Nat → List Nat × List Nat × List Ev :=
  match add with
  | true => groupsAddLoop isQuery
  | false => groupsRemoveLoop isQuery

theorem groupsLoop_errors (isQuery : Nat → Bool) (add : Bool) (gs l : List Nat) :
    ∀ e ∈ (groupsLoop isQuery add gs l).2.2, e = .error := by
  have : (groupsLoop isQuery add gs l).2.2 = (l.filter isQuery).map fun _ => .error := by
    cases add
    · exact (groupsRemoveLoop_eq_reevalLoop isQuery gs l).2.2
    · exact (groupsAddLoop_eq_reevalLoop isQuery gs l).2.2
  rw [this]
  exact List.forall_mem_map.2 fun _ _ => rfl

theorem groupsLoop_again (isQuery : Nat → Bool) (add : Bool) (gs l : List Nat) :
    (groupsLoop isQuery add (groupsLoop isQuery add gs l).1 l).2.1 = [] := by
  cases add
  · exact (groupsRemoveLoop_eq_reevalLoop isQuery _ l).2.1.trans
      ((groupsRemoveLoop_eq_reevalLoop isQuery gs l).1 ▸ (reevalLoop_again _ gs _).2)
  · exact (groupsAddLoop_eq_reevalLoop isQuery _ l).2.1.trans
      ((groupsAddLoop_eq_reevalLoop isQuery gs l).1 ▸ (reevalLoop_again _ gs _).1)

theorem applyGroups_eq (isQuery : Nat → Bool) (c : Contact) (add : Bool) (gs : List Nat) :
    applyGroups isQuery c add gs = report c { c with groups := (groupsLoop isQuery add c.groups gs).1 }
      (if c.status ≠ .active then [.error] else (groupsLoop isQuery add c.groups gs).2.2)
      (if add then .groupsChanged (groupsLoop isQuery add c.groups gs).2.1 []
        else .groupsChanged [] (groupsLoop isQuery add c.groups gs).2.1)
      (c.status = .active ∧ (groupsLoop isQuery add c.groups gs).2.1 ≠ []) := by
  unfold applyGroups report
  by_cases h : c.status = .active <;> cases add <;> simp [h, groupsLoop]

theorem applyGroups_errors (isQuery : Nat → Bool) (c : Contact) (add : Bool) (gs : List Nat) :
    ∀ x ∈ (if c.status ≠ .active then [Ev.error] else (groupsLoop isQuery add c.groups gs).2.2), x = .error := by
  split
  · exact List.forall_mem_singleton.2 rfl
  · exact groupsLoop_errors _ _ _ _

/-- **Idempotence of the groups modifier**: applied a second time it leaves the contact as it is,
reports `modified = false` and emits nothing but the errors for query-based groups (which it
refuses every time). -/
theorem groups_idem (isQuery : Nat → Bool) (c : Contact) (add : Bool) (gs : List Nat) :
    (applyGroups isQuery (applyGroups isQuery c add gs).contact add gs).contact = (applyGroups isQuery c add gs).contact ∧
    (applyGroups isQuery (applyGroups isQuery c add gs).contact add gs).modified = false ∧
    ∀ e ∈ (applyGroups isQuery (applyGroups isQuery c add gs).contact add gs).events, e = .error := by
  rw [report_idem (applyGroups isQuery · add gs) (applyGroups_eq isQuery · add gs)
    (fun c _ h => h.2 (groupsLoop_again isQuery add c.groups gs))]
  exact ⟨rfl, rfl, applyGroups_errors _ _ _ _⟩

theorem groups_modified_iff_event (isQuery : Nat → Bool) (c : Contact) (add : Bool) (gs : List Nat) :
    (applyGroups isQuery c add gs).modified = true ↔
    ∃ a r, Ev.groupsChanged a r ∈ (applyGroups isQuery c add gs).events := by
  rw [applyGroups_eq]
  have herr := applyGroups_errors isQuery c add gs
  refine ⟨fun h => ?_, fun ⟨a, r, h⟩ => (report_events herr).2 _ h nofun⟩
  have := (report_events herr).1 h
  cases add <;> exact ⟨_, _, this⟩

end GoflowModel.Props.C03
