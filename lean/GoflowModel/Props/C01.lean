import GoflowModel.Lemmas.EngineChain
import GoflowModel.Lemmas.EngineWait
import GoflowModel.Lemmas.EngineEvents
import GoflowModel.Gen.Engine
/-!
# C01 — Session state machine is well-formed after every sprint

Model: `Engine/Model.lean` (statement-by-statement transcription of `session.go` with every
data-dependent decision read from an oracle).  All theorems hold for **every** asset list
(any graph shape, missing flows, empty flows), **every** oracle (every contact, input, router
and action behaviour) and **every** history of resumes.

Proved here, for every reachable session: clause (i) (a session handed back without error is
waiting, completed or failed), clause (iv) (`exited_on` is set exactly for completed, failed and
expired runs), that no pushed flow is left pending, and the run-status part of clause (ii)
(`reachable_chain`: a waiting session has exactly one waiting run, every active run is a proper
ancestor of it and the active runs are closed towards it; any other session has no active or
waiting run; `reachable_waits_at_wait`: the waiting run is located on a node whose router has a
wait; `reachable_clause_ii`: both together) and clause (iii) (`reachable_walk`: every path is a
walk in its flow's graph) and clause (v) (`reachable_event_steps`: an event that names a step names
one of its own run; `start_events_in_sprint`, `resume_events_in_sprint`: what a run records during
a call is a subsequence of that call's sprint events).  `Clause_ii` and `Clause_iii` below are the
decidable forms the correspondence driver evaluates on every generated history.
-/
namespace GoflowModel.Props.C01
open GoflowModel.Engine

/-- clauses (i) and (iv), and no flow left pushed -/
def Handed (s : Session) : Prop :=
  (s.status = .waiting ∨ s.status = .completed ∨ s.status = .failed) ∧
  (∀ (i : Nat) (x : Run), s.runs[i]? = some x →
    (x.exited = true ↔ (x.status = .completed ∨ x.status = .failed ∨ x.status = .expired))) ∧
  s.pushed = none

/-- sessions reachable by a start followed by any finite sequence of error-free resumes, each
with its own oracle (engine errors and Go errors end nothing: the caller may retry) -/
inductive Reachable (a : Assets) (o : Opts) : Session → Prop
  | start (orc : Oracle) (st : St) : start a o orc = .ok st → Reachable a o st.s
  | resume (orc : Oracle) (s : Session) (k : ResumeKind) (st : St) :
      Reachable a o s → resume a o orc s k = .ok st → Reachable a o st.s

/-- clauses (i) and (iv), no flow left pushed, and parent links that point backwards -/
theorem reachable_post (a : Assets) (o : Opts) (s : Session) (h : Reachable a o s) : Post s := by
  induction h with
  | start orc st hst => exact (hst ▸ start_post a o orc : OkPost (.ok st))
  | resume orc s k st _ hres ih => exact (hres ▸ resume_post a o orc s k ih : OkPost (.ok st))

/-- the property, for every reachable session -/
theorem reachable_wellformed (a : Assets) (o : Opts) (s : Session) (h : Reachable a o s) :
    Handed s :=
  have p := reachable_post a o s h
  ⟨p.status, p.ok, p.pushed⟩

/-- the parent links of every reachable session point backwards, and clause (ii) holds of it -/
theorem reachable_chain (a : Assets) (o : Opts) (s : Session) (h : Reachable a o s) :
    PBC s ∧ FinalChain s := by
  refine ⟨(reachable_post a o s h).pbc, ?_⟩
  induction h with
  | start orc st hst => exact (hst ▸ start_chain a o orc : ResChain (.ok st))
  | resume orc s k st hr hres ih =>
    have p := reachable_post a o s hr
    exact (hres ▸ resume_chain a o orc s k p.ok p.pushed p.pbc ih : ResChain (.ok st))

/-- so in a reachable waiting session the waiting run comes after every live run: each active run
is a proper ancestor, and parents come earlier in `runs` -/
theorem reachable_waiting_last (a : Assets) (o : Opts) (s : Session) (h : Reachable a o s)
    (hw : s.status = .waiting) :
    ∃ w, runStatus s w = some .waiting ∧ ∀ i, runStatus s i = some .active → i < w := by
  obtain ⟨hp, hc⟩ := reachable_chain a o s h
  obtain ⟨w, h1, _, h3, _⟩ := hc.waiting hw
  exact ⟨w, h1, fun i hi => (h3 i hi).lt hp⟩

/-- clause (ii), location: a reachable waiting session's waiting run is located (`PathLocation`)
on a node that has a router with a wait -/
theorem reachable_waits_at_wait (a : Assets) (o : Opts) (s : Session) (h : Reachable a o s)
    (hw : s.status = .waiting) :
    ∃ w step node, runStatus s w = some .waiting ∧ pathLocation a s w = some (step, node) ∧
      node.hasRouter = true ∧ node.wait.isSome := by
  have key : ResWait a (.ok ⟨s, []⟩) := by
    cases h with
    | start orc st hst => exact (hst ▸ start_wait a o orc : ResWait a (.ok st))
    | resume orc s0 k st hr hres =>
      have p := reachable_post a o s0 hr
      exact (hres ▸ resume_wait a o orc s0 k p.ok p.pushed p.pbc : ResWait a (.ok st))
  obtain ⟨w, node, h1, h2, h3, h4⟩ := key hw
  obtain ⟨step, hs⟩ := pathLocation_of_atNode h2
  exact ⟨w, step, node, h1, hs, h3, h4⟩

/-- the three parts of clause (ii) together: the waiting run of `reachable_waits_at_wait` is the
only waiting run and every active run is one of its proper ancestors -/
theorem reachable_clause_ii (a : Assets) (o : Opts) (s : Session) (h : Reachable a o s) :
    (s.status = .waiting →
      ∃ w step node, runStatus s w = some .waiting ∧ (∀ i, i ≠ w → runStatus s i ≠ some .waiting) ∧
        pathLocation a s w = some (step, node) ∧ node.hasRouter = true ∧ node.wait.isSome ∧
        (∀ i, runStatus s i = some .active → Anc (parents s) w i)) ∧
    (s.status ≠ .waiting → ∀ i, runStatus s i ≠ some .active ∧ runStatus s i ≠ some .waiting) := by
  obtain ⟨_, hc⟩ := reachable_chain a o s h
  refine ⟨fun hw => ?_, hc.done⟩
  obtain ⟨w, h1, h2, h3, _⟩ := hc.waiting hw
  obtain ⟨w', step, node, g1, g2, g3, g4⟩ := reachable_waits_at_wait a o s h hw
  obtain rfl : w' = w := Classical.byContradiction fun e => h2 w' e g1
  exact ⟨w', step, node, h1, h2, g2, g3, g4, h3⟩

/-- non-vacuity: a two-flow session that waits inside a sub-flow is reachable -/
def exAssets : Assets :=
  [some ⟨[⟨[none], false, none⟩]⟩, some ⟨[⟨[none, none], true, some (.msg false)⟩]⟩]
def exOracle : Oracle :=
  { initEvents := [], initErr := false, initFlow := 0, applyBase := [], applyGroups := [],
    visit := fun r _ => if r = 0 then some ⟨[⟨15, false⟩], some ⟨1, false⟩, .done, false, .exit (some 0)⟩
                        else some ⟨[⟨20, true⟩], none, .done, true, .exit (some 0)⟩,
    late := fun _ _ => some ⟨[], .exit (some 0)⟩ }

example : ∃ st, start exAssets ⟨100, 500⟩ exOracle = .ok st ∧ st.s.status = .waiting ∧
    st.s.runs.map (·.status) = [.active, .waiting] := by
  refine ⟨_, rfl, ?_, ?_⟩ <;> decide

/-- non-vacuity of `reachable_chain`: in that reachable session run 0 is active and is the parent of
the waiting run 1 -/
example : ∃ st, start exAssets ⟨100, 500⟩ exOracle = .ok st ∧ runStatus st.s 0 = some .active ∧
    runStatus st.s 1 = some .waiting ∧ Anc (parents st.s) 1 0 := by
  refine ⟨_, rfl, by decide, by decide, .parent (by decide)⟩

/-- clause (ii) as a decidable predicate (evaluated by the driver on every history) -/
def Clause_ii (a : Assets) (s : Session) : Bool :=
  let waiting := (List.range s.runs.length).filter fun i => runStatus s i == some .waiting
  if s.status == .waiting then
    match waiting with
    | [w] =>
      let ancestors := (List.range s.runs.length).foldl
        (fun (acc : List Nat) _ => match acc.head? with
          | some h => match (s.runs[h]?).bind (·.parent) with
            | some p => p :: acc
            | none => acc
          | none => acc) [w]
      ((pathLocation a s w).map fun x => x.2.hasRouter && x.2.wait.isSome).getD false &&
      (List.range s.runs.length).all fun i =>
        runStatus s i != some .active || (i != w && ancestors.contains i)
    | _ => false
  else
    (List.range s.runs.length).all fun i =>
      runStatus s i != some .active && runStatus s i != some .waiting

/-- clause (iii): every path is a walk in its flow's graph (`Engine.walkFrom`: a step's exit
belongs to the step's node and leads to the next step's node; only the last step may lack one) -/
def Clause_iii (a : Assets) (s : Session) : Bool :=
  s.runs.all fun r => match getFlow a r.flow with
    | some f => walkFrom f.nodes r.path
    | none => true

/-- clause (iii) for every reachable session: whatever the flow graphs, the oracle and the
history of resumes, every run whose flow asset exists has a path that is a walk in that flow -/
theorem reachable_walk (a : Assets) (o : Opts) (s : Session) (h : Reachable a o s) :
    Clause_iii a s = true := by
  have key : WalkAllL a (pf s) := by
    induction h with
    | start orc st hst => exact (hst ▸ start_walk a o orc : ResWalk a (.ok st))
    | resume orc s k st hr hres ih =>
      have p := reachable_post a o s hr
      exact (hres ▸ resume_walk a o orc s k p.ok p.pushed p.pbc ih : ResWalk a (.ok st))
  simp only [Clause_iii, List.all_eq_true]
  intro r hr
  obtain ⟨i, hi, rfl⟩ := List.getElem_of_mem hr
  split
  next f hf => exact key i _ _ (by simp [pf, List.getElem?_eq_getElem hi]) f hf
  next => rfl

/-- non-vacuity: the reachable example session has non-empty paths, and `walkFrom` rejects a step
whose exit leads elsewhere -/
example : ∃ st, start exAssets ⟨100, 500⟩ exOracle = .ok st ∧
    st.s.runs.map (·.path) = [[⟨0, none⟩], [⟨0, none⟩]] ∧ Clause_iii exAssets st.s = true := by
  refine ⟨_, rfl, by decide, by decide⟩
example : walkFrom [⟨[some 1], false, none⟩, ⟨[], false, none⟩] [⟨0, some 0⟩, ⟨0, none⟩] = false := by decide
example : walkFrom [⟨[some 1], false, none⟩, ⟨[], false, none⟩] [⟨0, some 0⟩, ⟨1, none⟩] = true := by decide

/-- clause (v), first half: in every reachable session every event a run holds that names a step
names a step of that very run -/
theorem reachable_event_steps (a : Assets) (o : Opts) (s : Session) (h : Reachable a o s) :
    ∀ (r : Nat) (x : Run), s.runs[r]? = some x → ∀ e ∈ x.events, ∀ sr, e.step = some sr →
      sr.run = r ∧ sr.idx < x.path.length := by
  induction h with
  | start orc st hst => exact (hst ▸ start_ev a o orc : ResEv _ (.ok st)).1
  | resume orc s k st _ hres ih => exact (hres ▸ resume_ev a o orc s k ih : ResEv _ (.ok st)).1

/-- clause (v), second half, for a start: everything the runs hold is, in order, among the
sprint's events -/
theorem start_events_in_sprint (a : Assets) (o : Opts) (orc : Oracle) (st : St) (h : start a o orc = .ok st) :
    ∀ (r : Nat) (x : Run), st.s.runs[r]? = some x → List.Sublist x.events (st.sp.map (·.ev)) := by
  intro r x hx
  obtain ⟨n, hn1, hn2⟩ := (h ▸ start_ev a o orc : ResEv _ (.ok st)).2.2 r x hx
  rw [hn1]; exact hn2

/-- clause (v), second half, for a resume of any reachable session: each run holds what it held
before the call followed by events that are, in order, among the sprint's events (a run created
during the call held nothing before) -/
theorem resume_events_in_sprint (a : Assets) (o : Opts) (orc : Oracle) (s : Session) (k : ResumeKind) (st : St)
    (hr : Reachable a o s) (h : resume a o orc s k = .ok st) :
    ∀ (r : Nat) (x : Run), st.s.runs[r]? = some x →
      ∃ new, x.events = ((s.runs[r]?).map (·.events)).getD [] ++ new ∧ List.Sublist new (st.sp.map (·.ev)) :=
  (h ▸ resume_ev a o orc s k (reachable_event_steps a o s hr) : ResEv _ (.ok st)).2.2

/-- non-vacuity: the reachable example session recorded events, each naming step 0 of its own run,
and its sprint lists them in order -/
example : ∃ st, start exAssets ⟨100, 500⟩ exOracle = .ok st ∧
    st.s.runs.map (fun x => x.events.map (fun e => (e.kind, e.step))) =
      [[(15, some ⟨0, 0⟩)], [(20, some ⟨1, 0⟩)]] ∧
    st.sp.map (fun se => (se.run, se.ev.kind)) = [(some 0, 15), (some 1, 20)] := by
  refine ⟨_, rfl, by decide, by decide⟩

/-- tie to the source: the resume kinds of the model are the registered resume types -/
theorem resume_kinds_as_modelled :
    Gen.Engine.resumeTypes = ["dial", "msg", "run_expiration", "wait_timeout"] ∧
    Gen.Engine.waitTypes = ["dial", "msg"] :=
  ⟨rfl, rfl⟩

end GoflowModel.Props.C01
