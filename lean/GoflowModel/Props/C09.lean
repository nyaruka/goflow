import GoflowModel.Engine.Concurrent
import GoflowModel.Gen.FieldWrites
/-!
# C09 — Sessions can run concurrently over shared assets

For every number of threads and every schedule (no bound on either):

* the flow cache (`flowAssets`): threads exclude each other between Lock and Unlock, which is
  where the cache map is read and written; every `Get` returns what the same `Get` returns when it
  runs alone (`load (key t)`); each flow is read and migrated at most once;
* lazy initialisation behind `sync.Once` (the repaired `XObject`): the initialiser runs at most
  once, nobody reads the fields while it runs, and nobody reads them before it has finished;
* the lazy initialisation as it was before the repair has a two-step schedule that ends in a race
  (kernel-checked witness).

Both invariants are kept thread by thread (`cacheOk`, `onceOk`: what a thread may assume of the shared state at its
program counter; inside the lock that includes the load history, or the flag and the count), so that a step is checked
for the thread that moves and, by `forall_upd_of_lock` (`Engine/Concurrent`), for those outside the lock.
-/
namespace GoflowModel.Props.C09
open GoflowModel.Concurrent

section Cache
open Cache

structure Inv (key load : Nat → Nat) (s : St) : Prop where
  excl : ∀ t, critical s t ↔ s.holder = some t
  cached : ∀ k v, s.cache k = some v → v = load k
  loaded : ∀ t v, s.pc t = .loaded v → v = load (key t) ∧ s.cache (key t) = none
  done : ∀ t v, s.pc t = .done v → v = load (key t)
  nodup : s.loads.Nodup
  hist : ∀ k, k ∈ s.loads → s.cache k = some (load k) ∨ ∃ t, s.pc t = .loaded (load k) ∧ key t = k

def cacheOk (key load : Nat → Nat) (s : St) (u : Nat) : Pc → Prop
  | .start => s.holder ≠ some u
  | .locked => s.holder = some u ∧ ∀ k ∈ s.loads, s.cache k = some (load k)
  | .loaded v => s.holder = some u ∧ v = load (key u) ∧ s.cache (key u) = none ∧
      ∀ k ∈ s.loads, k ≠ key u → s.cache k = some (load k)
  | .done v => s.holder ≠ some u ∧ v = load (key u)

structure ThreadInv (key load : Nat → Nat) (s : St) : Prop where
  thread : ∀ u, cacheOk key load s u (s.pc u)
  free : s.holder = none → ∀ k ∈ s.loads, s.cache k = some (load k)
  cached : ∀ k v, s.cache k = some v → v = load k
  nodup : s.loads.Nodup

theorem threadInv_init (key load : Nat → Nat) : ThreadInv key load init :=
  ⟨fun _ => nofun, fun _ => nofun, nofun, .nil⟩

theorem cacheOk_outside {key load : Nat → Nat} {s s' : St} {u : Nat} {p : Pc} (h : cacheOk key load s u p)
    (hh : s.holder ≠ some u) (hh' : s'.holder ≠ some u) : cacheOk key load s' u p := by
  cases p
  case start => exact hh'
  case locked | loaded => exact absurd h.1 hh
  case done => exact ⟨hh', h.2⟩

theorem threadInv_step (key load : Nat → Nat) (s : St) (t : Nat) (h : ThreadInv key load s) :
    ThreadInv key load (step key load s t) := by
  have ht := h.thread t
  unfold step
  generalize s.pc t = p at ht ⊢
  cases p <;> dsimp only
  case start =>
    split
    · next hfree => exact { h with
        thread := forall_upd_of_lock h.thread cacheOk_outside (.inl hfree) (.inr rfl) ⟨rfl, h.free hfree⟩
        free := nofun }
    · exact h
  case locked =>
    split
    · next v hcached => exact { h with
        thread := forall_upd_of_lock h.thread cacheOk_outside (.inr ht.1) (.inl rfl) ⟨nofun, h.cached _ _ hcached⟩
        free := fun _ => ht.2 }
    · next hmissing =>
      -- not cached, and every flow loaded so far is: this one is loaded for the first time
      exact { h with
        thread := forall_upd_of_lock h.thread cacheOk_outside (.inr ht.1) (.inr ht.1)
          ⟨ht.1, rfl, hmissing, fun k hk hne => ht.2 k ((List.mem_cons.1 hk).resolve_left hne)⟩
        free := fun e => absurd (ht.1.symm.trans e) nofun
        nodup := List.nodup_cons.2 ⟨(fun hk => nomatch hmissing.symm.trans (ht.2 _ hk)), h.nodup⟩ }
  case loaded v => exact { h with
      thread := forall_upd_of_lock h.thread cacheOk_outside (.inr ht.1) (.inl rfl) ⟨nofun, ht.2.1⟩
      free := fun _ => forall_upd (P := fun k o => k ∈ s.loads → o = some (load k)) (fun _ => congrArg some ht.2.1)
        fun k hk hmem => ht.2.2.2 k hmem hk
      cached := forall_upd (P := fun k o => ∀ w, o = some w → w = load k) (fun w e => Option.some.inj e ▸ ht.2.1)
        fun k _ => h.cached k }
  case done => exact h

theorem ThreadInv.of_pc {key load : Nat → Nat} {s : St} {u : Nat} {p : Pc} (h : ThreadInv key load s)
    (hp : s.pc u = p) : cacheOk key load s u p := hp ▸ h.thread u

theorem ThreadInv.inv {key load : Nat → Nat} {s : St} (h : ThreadInv key load s) : Inv key load s where
  excl t := by
    have ht := h.thread t
    unfold critical
    generalize s.pc t = p at ht
    cases p
    case start => exact iff_of_false nofun ht
    case locked => exact iff_of_true (.inl rfl) ht.1
    case loaded v => exact iff_of_true (.inr ⟨v, rfl⟩) ht.1
    case done => exact iff_of_false nofun ht.1
  cached := h.cached
  loaded t v hp := ⟨(h.of_pc hp).2.1, (h.of_pc hp).2.2.1⟩
  done t v hp := (h.of_pc hp).2
  nodup := h.nodup
  hist k hk := by
    -- only the holder may have loaded what it has not stored yet
    cases hh : s.holder with
    | none => exact .inl (h.free hh k hk)
    | some w =>
      have hw := h.thread w
      generalize hp : s.pc w = p at hw
      cases p
      case start => exact absurd hh hw
      case locked => exact .inl (hw.2 k hk)
      case loaded v =>
        by_cases e : k = key w
        · exact .inr ⟨w, by rw [hp, hw.2.1, e], e.symm⟩
        · exact .inl (hw.2.2.2 k hk e)
      case done => exact absurd hh hw.1

theorem run_inv (key load : Nat → Nat) (sched : List Nat) : Inv key load (run key load sched init) :=
  (sched.foldlRecOn (motive := ThreadInv key load) _ (threadInv_init key load) fun s hs t _ =>
    threadInv_step key load s t hs).inv

/-- **Mutual exclusion**: under every schedule, at most one thread is between Lock and Unlock —
the only place the cache map is read or written. -/
theorem cache_exclusive (key load : Nat → Nat) (sched : List Nat) (t u : Nat)
    (ht : critical (run key load sched init) t) (hu : critical (run key load sched init) u) : t = u :=
  have h := run_inv key load sched
  Option.some.inj (((h.excl t).1 ht).symm.trans ((h.excl u).1 hu))

/-- **Same result as alone**: under every schedule, whatever a `Get` returns is what the source
and migration give for that flow … -/
theorem get_returns_load (key load : Nat → Nat) (sched : List Nat) (t v : Nat)
    (h : (run key load sched init).pc t = .done v) : v = load (key t) :=
  (run_inv key load sched).done t v h

/-- … which is what it returns when the thread runs alone over fresh assets. -/
theorem get_alone (key load : Nat → Nat) (t : Nat) :
    (run key load [t, t, t] init).pc t = .done (load (key t)) := by
  simp [run, step, init, upd]

/-- **Loaded at most once**: no flow is read from the source and migrated twice, whatever the
schedule. -/
theorem loads_nodup (key load : Nat → Nat) (sched : List Nat) : (run key load sched init).loads.Nodup :=
  (run_inv key load sched).nodup

end Cache

section Lazy

/-- before the repair: two threads, two steps, and both are about to write the same fields -/
theorem lazy_unsynchronised_races :
    Lazy.race (Lazy.run [0, 1] Lazy.init) 0 1 = true := by decide

end Lazy

section Once
open Once

def onceOk (s : St) (u : Nat) : Pc → Prop
  | .start | .wantLock => s.holder ≠ some u
  | .holding => s.holder = some u ∧ (s.flag = false → s.inits = 0)
  | .initialising => s.holder = some u ∧ s.flag = false ∧ s.inits = 0
  | .storing => s.holder = some u ∧ s.flag = false ∧ s.inits = 1
  | .reading => s.holder ≠ some u ∧ s.flag = true

structure OInv (s : St) : Prop where
  thread : ∀ u, onceOk s u (s.pc u)
  free : s.holder = none → s.flag = false → s.inits = 0
  set : s.flag = true → s.inits = 1
  le : s.inits ≤ 1

theorem OInv.of_pc {s : St} {u : Nat} {p : Pc} (h : OInv s) (hp : s.pc u = p) : onceOk s u p := hp ▸ h.thread u

theorem oinv_init : OInv Once.init := ⟨fun _ => nofun, fun _ _ => rfl, nofun, Nat.zero_le 1⟩

theorem onceOk_outside {s s' : St} {u : Nat} {p : Pc} (hf : s.flag = true → s'.flag = true) (h : onceOk s u p)
    (hh : s.holder ≠ some u) (hh' : s'.holder ≠ some u) : onceOk s' u p := by
  cases p
  case start | wantLock => exact hh'
  case holding | initialising | storing => exact absurd h.1 hh
  case reading => exact ⟨hh', hf h.2⟩

theorem oinv_step (s : St) (t : Nat) (h : OInv s) : OInv (Once.step s t) := by
  have ht := h.thread t
  unfold Once.step
  generalize s.pc t = p at ht ⊢
  cases p <;> dsimp only
  case start =>
    -- only `pc` changes, which no thread's assertion looks at
    split
    · next hset => exact { h with thread := forall_upd ⟨ht, hset⟩ fun u _ => h.thread u }
    · exact { h with thread := forall_upd ht fun u _ => h.thread u }
  case wantLock =>
    split
    · next hfree => exact { h with
        thread := forall_upd_of_lock h.thread (onceOk_outside id) (.inl hfree) (.inr rfl) ⟨rfl, h.free hfree⟩
        free := nofun }
    · exact h
  case holding =>
    split
    · next hset => exact { h with
        thread := forall_upd_of_lock h.thread (onceOk_outside id) (.inr ht.1) (.inl rfl) ⟨nofun, hset⟩
        free := fun _ e => absurd hset (e ▸ nofun) }
    · next hclear =>
      have hclear := Bool.eq_false_iff.2 hclear
      exact { h with thread := forall_upd ⟨ht.1, hclear, ht.2 hclear⟩ fun u _ => h.thread u }
  case initialising => exact {
      thread := forall_upd_of_lock h.thread (onceOk_outside id) (.inr ht.1) (.inr ht.1) ⟨ht.1, ht.2.1, congrArg (· + 1) ht.2.2⟩
      free := fun e => absurd (ht.1.symm.trans e) nofun
      set := fun e => absurd (ht.2.1.symm.trans e) nofun
      le := Nat.le_of_eq (congrArg (· + 1) ht.2.2) }
  case storing => exact { h with
      thread := forall_upd_of_lock h.thread (onceOk_outside fun _ => rfl) (.inr ht.1) (.inl rfl) ⟨nofun, rfl⟩
      free := nofun
      set := fun _ => ht.2.2 }
  case reading => exact h

theorem orun_inv (sched : List Nat) : OInv (Once.run sched Once.init) :=
  sched.foldlRecOn _ oinv_init fun s hs t _ => oinv_step s t hs

/-- **The initialiser runs at most once**, whatever the schedule and however many threads. -/
theorem once_at_most_once (sched : List Nat) : (Once.run sched Once.init).inits ≤ 1 :=
  (orun_inv sched).le

/-- **Nobody reads the fields while the initialiser writes them** … -/
theorem once_no_read_during_init (sched : List Nat) (t u : Nat)
    (hw : writing (Once.run sched Once.init) t) : ¬ readingFields (Once.run sched Once.init) u :=
  have h := orun_inv sched
  fun hr => absurd ((h.of_pc hw).2.1.symm.trans (h.of_pc hr).2) nofun

/-- … there is one writer at a time … -/
theorem once_single_writer (sched : List Nat) (t u : Nat)
    (ht : writing (Once.run sched Once.init) t) (hu : writing (Once.run sched Once.init) u) : t = u :=
  have h := orun_inv sched
  Option.some.inj ((h.of_pc ht).1.symm.trans (h.of_pc hu).1)

/-- … and whoever reads the fields reads them after the one initialisation has completed. -/
theorem once_read_after_init (sched : List Nat) (t : Nat)
    (hr : readingFields (Once.run sched Once.init) t) :
    (Once.run sched Once.init).flag = true ∧ (Once.run sched Once.init).inits = 1 :=
  have h := orun_inv sched
  ⟨(h.of_pc hr).2, h.set (h.of_pc hr).2⟩

/-- the protocol is live on a simple schedule: two threads both get to read, after one initialisation -/
example : (Once.run [0, 1, 0, 1, 0, 0, 0, 1, 1] Once.init).pc 0 = .reading ∧
    (Once.run [0, 1, 0, 1, 0, 0, 0, 1, 1] Once.init).pc 1 = .reading ∧
    (Once.run [0, 1, 0, 1, 0, 0, 0, 1, 1] Once.init).inits = 1 := by decide

end Once

/-! ## where the code writes shared state (regenerated from the source on every run) -/

/-- The writes the two machines model are synchronised the way the machines assume: the flow
cache is written only in methods that begin by locking the assets' mutex and defer the unlock,
the lazily built fields of `XObject` only inside the `sync.Once`. -/
theorem shared_writes_synchronised :
    (Gen.FieldWrites.writes.filter fun w => w.1 == "definition.flowAssets").map (fun w => (w.2.1, w.2.2.1, w.2.2.2)) =
      [("cache", "FindByName", "mutex"), ("cache", "Get", "mutex")] ∧
    (Gen.FieldWrites.writes.filter fun w => w.1 == "types.XObject" && w.2.2.2 != "none").map (fun w => (w.2.1, w.2.2.1, w.2.2.2)) =
      [("def", "ensureInitialized", "once"), ("props", "ensureInitialized", "once")] := by
  decide +kernel

/-- Types with a field write outside any lock, each with the reason its values are never written
by two sessions at once.  A type that is not listed here and gains such a write breaks
`unsynchronised_types_confined`. -/
def confined : List (String × String) := [
  ("assets.UserReference", "written while it is unmarshalled, before it is published"),
  ("contactql.QueryError", "an error value under construction"),
  ("contactql.errorListener", "one per parse"),
  ("contactql.visitor", "one per parse"),
  ("definition.exit", "written while the flow is unmarshalled, inside flowAssets' lock, before it is published"),
  ("definition.node", "written while the flow is unmarshalled, inside flowAssets' lock, before it is published"),
  ("engine.Builder", "builder: used before the engine exists"),
  ("engine.session", "a session belongs to the one goroutine driving it"),
  ("engine.sprint", "belongs to its session"),
  ("envs.EnvironmentBuilder", "builder: used before the environment exists"),
  ("envs.LocationHierarchy", "initializeFromRoot is called by the constructors only"),
  ("events.BaseEvent", "an event belongs to the sprint that created it"),
  ("events.MsgWaitEvent", "written while it is unmarshalled"),
  ("excellent.ErrorListener", "one per parse"),
  ("excellent.TemplateErrors", "one per template evaluation"),
  ("excellent.Warnings", "one per template evaluation"),
  ("excellent.visitor", "one per evaluation"),
  ("excellent.xinput", "one per scan"),
  ("excellent.xscanner", "one per scan"),
  ("flows.BaseMsg", "a message belongs to the session or host that created it"),
  ("flows.Call", "written while it is unmarshalled"),
  ("flows.Contact", "a contact belongs to its session (resumes hand over a clone)"),
  ("flows.ContactURN", "belongs to its contact"),
  ("flows.GroupList", "belongs to its contact"),
  ("flows.HTTPLogger", "created by the host per call"),
  ("flows.MsgIn", "a message belongs to the session or host that created it"),
  ("inputs.baseInput", "written while it is unmarshalled"),
  ("legacy.GroupReference", "written while a legacy definition is unmarshalled"),
  ("legacy.LabelReference", "written while a legacy definition is unmarshalled"),
  ("legacy.TypedEnvelope", "written while a legacy definition is unmarshalled"),
  ("legacy.UI", "built during one legacy migration"),
  ("po.PO", "built during one export"),
  ("resumes.baseResume", "written while it is unmarshalled"),
  ("routers.SwitchRouter", "written while the flow is unmarshalled, before it is published"),
  ("routers.baseRouter", "written while the flow is unmarshalled, before it is published"),
  ("runs.legacyExtra", "belongs to its run"),
  ("runs.run", "belongs to its session"),
  ("runs.step", "belongs to its run"),
  ("smtpx.MockSender", "test double"),
  ("static.Flow", "written while the assets are unmarshalled, before the source is published"),
  ("triggers.ChannelBuilder", "builder"),
  ("triggers.FlowActionBuilder", "builder"),
  ("triggers.ManualBuilder", "builder"),
  ("triggers.MsgBuilder", "builder"),
  ("triggers.baseTrigger", "written while it is unmarshalled"),
  ("types.XArray", "lazy arrays are built per evaluation (JSON values, run contexts); the shared XArrayEmpty is built eagerly"),
  ("types.XObject", "SetMarshalOptions is applied to objects built for one evaluation; the shared objects are only read once built"),
  ("types.baseValue", "SetDeprecated is applied while a context object is built"),
  ("waits.baseWait", "written while it is unmarshalled")
]

theorem unsynchronised_types_confined :
    Gen.FieldWrites.unsynchronisedTypes.all (fun t => confined.any (·.1 == t)) = true := by
  have h : Gen.FieldWrites.unsynchronisedTypes.Sublist (confined.map (·.1)) := by
    unfold Gen.FieldWrites.unsynchronisedTypes confined
    simp only [List.map]
    -- Both lists are in the census's sorted order, so one walk settles it: heads that are the same literal are matched
    -- (`cons_cons`, tried first), otherwise the reviewed entry is skipped (`cons`).  No string is evaluated on the way
    -- (deciding the statement compares them byte by byte, which is slow).
    repeat first | apply List.Sublist.cons_cons | apply List.Sublist.cons
    exact .slnil
  refine List.all_eq_true.2 fun t ht => List.any_eq_true.2 ?_
  obtain ⟨x, hx, rfl⟩ := List.mem_map.1 (h.subset ht)
  exact ⟨x, hx, beq_self_eq_true _⟩

/-- package-level variables are written only by the registration functions that `init` calls -/
theorem globals_written_by_registration_only :
    Gen.FieldWrites.globalWrites.all (fun g =>
      g.2 == "registerType" || g.2 == "RegisterXTest" || g.2 == "RegisterXFunction" || g.2 == "registerMigration" ||
      g.2 == "RegisterValidatorAlias" || g.2 == "RegisterValidatorTag" || g == ("smtpx.currentSender", "SetSender")) = true := by
  decide +kernel

end GoflowModel.Props.C09
