import GoflowModel.Lemmas.ExprParse
import GoflowModel.Lemmas.ExprParseShape
import GoflowModel.Lemmas.PrintNewline
import GoflowModel.Excellent.Eval
import GoflowModel.Gen.Grammar
/-!
# C11 — Printing and re-parsing an expression preserves its meaning

* `parse_print_parse`: **for every token list the parser accepts**, printing the tree and parsing
  the printed tokens gives the same tree with its reference names lowered (what printing does to
  them), whatever the expression: all twelve operators at every nesting, negation chains,
  parentheses, dot and index lookups, calls with any parameters, anonymous functions (also as the
  last operand of an operator), text and number literals — no bound on size.  It is the
  composition of `parser_shape` (the parser only returns trees of the shape `Shape`) and
  `print_parse` (the printed tokens of any such tree parse back to it, in any context an
  expression can stand in: `print_parse_in_context`).  `print_fixed_point`: printing the re-parsed
  tree gives the same tokens again.  `reparse_same_value`: it evaluates to the same value in every
  context and every value domain.  The statements are about token lists: that the printed text
  lexes to those tokens is C12's part (literals) and the correspondence's (names, numbers).
* `print_parse_core_partial`: the same on the operator core alone (`Core`), which is part of the
  whole language (`shape_of_core`).
* `rename_eval`: renaming a context reference and moving its value evaluates to the same value,
  for the whole language and every value domain — references rebound by an anonymous function's
  parameter are left alone (the repaired `ContextRefRename`), which is what makes the statement
  true; `rename_capture_witness` is the kernel-checked counterexample for the pre-repair renaming.
* `rename_only_renamed`: an expression without the name is untouched.
-/
namespace GoflowModel.Props.C11
open GoflowModel.Expr

section Full
open GoflowModel.Expr.Full

/-- **The printed tokens of a well-shaped tree parse back to it.** -/
theorem print_parse (e : Expr) (h : Shape (.e e)) :
    ∃ f0, ∀ f, f0 ≤ f → parseExpr f 0 (toks e) = some (e, []) :=
  List.append_nil (toks e) ▸ parseExpr_toks h (Nat.zero_le _) (rest := []) trivial nofun

/-- …embedded anywhere an expression can stand: before `)`, `,`, `]` or the end -/
theorem print_parse_in_context (e : Expr) (h : Shape (.e e)) (rest : List Tok) (hq : Full.quiet rest)
    (hs : ∀ q tl, rest ≠ .op q :: tl) :
    ∃ f0, ∀ f, f0 ≤ f → parseExpr f 0 (toks e ++ rest) = some (e, rest) :=
  parseExpr_toks h (Nat.zero_le _) hq fun q tl hh => absurd hh (hs q tl)

theorem parse_eq_some {ts : List Tok} {e : Expr} (h : parse ts = some e) : ∃ f, parseExpr f 0 ts = some (e, []) := by
  unfold parse at h
  split at h
  · cases h
  · split at h
    next e' heq => cases h; exact ⟨_, heq⟩
    · cases h

/-- **Every parseable expression**: printing its tree and parsing the printed tokens yields the
same tree, names lowered. -/
theorem parse_print_parse (ts : List Tok) (e : Expr) (h : parse ts = some e) :
    ∃ f0, ∀ f, f0 ≤ f → parseExpr f 0 (toks e) = some (norm e, []) :=
  let ⟨f, heq⟩ := parse_eq_some h
  toks_norm e ▸ print_parse (norm e) ((parser_shape Tables.isPrint_newline f).1 0 ts e [] heq (Nat.zero_le _)).1

/-- printing is a fixed point after one round -/
theorem print_fixed_point (ts : List Tok) (e : Expr) (_ : parse ts = some e) : toks (norm e) = toks e :=
  toks_norm e

/-- the re-parsed tree evaluates to the same value, in every context and value domain -/
theorem reparse_same_value {V : Type} (S : Sem V) (ρ : Env V) (e : Expr) : eval S ρ (norm e) = eval S ρ e :=
  eval_norm S ρ e

/-- non-vacuity: the parser accepts `F(a.b[1], (x) => -x ^ 2).0 & 3.50`, and prints it so -/
example :
    (parse [.name ['F'], .lparen, .name ['a'], .dot, .name ['b'], .lbrack, .int ['1'], .rbrack, .comma,
            .lparen, .name ['x'], .rparen, .arrow, .op .sub, .name ['x'], .op .exp, .int ['2'],
            .rparen, .dot, .int ['0'], .op .amp, .dec ['3', '.', '5', '0']]).map render =
      some "f(a.b[1], (x) => -x ^ 2).0 & 3.5".toList := by
  decide

end Full

/-- **Round trip on the operator core.** -/
theorem print_parse_core_partial (e : Expr) (h : Core e) :
    ∃ f0, ∀ f, f0 ≤ f → parseExpr f 0 (toks e) = some (e, []) :=
  print_parse e (shape_of_core h).1

/-- …embedded anywhere an expression can stand: before `)`, `,`, `]` or an operator that does
not bind tighter -/
theorem print_parse_core_in_context_partial (e : Expr) (h : Core e) (rest : List Tok) (hq : quiet rest)
    (hs : stops 0 rest) : ∃ f0, ∀ f, f0 ≤ f → parseExpr f 0 (toks e ++ rest) = some (e, rest) :=
  print_parse_in_context e (shape_of_core h).1 rest hq fun _ _ hh => absurd (Nat.zero_le _) (hh ▸ hs)

/-- the parser's own output on `-a ^ 2 + (b - c) * d = true & null` is in the core, so the theorem
is about trees the parser produces: negation binds tighter than `^`, `*` tighter than `+`, `+`
tighter than `=`, `=` tighter than `&` -/
example :
    (parse [.op .sub, .name ['a'], .op .exp, .name ['n'], .op .add, .lparen, .name ['b'], .op .sub, .name ['c'], .rparen,
           .op .mul, .name ['d'], .op .eq, .tru, .op .amp, .null]).map toks =
      some (toks (.bin .amp (.bin .eq (.bin .add (.bin .exp (.neg (.ref ['a'])) (.ref ['n']))
        (.bin .mul (.paren (.bin .sub (.ref ['b']) (.ref ['c']))) (.ref ['d']))) (.bool true)) .null)) := by
  decide

example : Core (.bin .amp (.bin .eq (.bin .add (.bin .exp (.neg (.ref ['a'])) (.ref ['n']))
    (.bin .mul (.paren (.bin .sub (.ref ['b']) (.ref ['c']))) (.ref ['d']))) (.bool true)) .null) := by
  repeat' constructor
  all_goals decide

/-- left associativity is not optional: the right-nested tree is not what the printed text parses to -/
example : (parse (toks (.bin .sub (.ref ['a']) (.bin .sub (.ref ['b']) (.ref ['c']))))).map render =
    some (render (.bin .sub (.bin .sub (.ref ['a']) (.ref ['b'])) (.ref ['c']))) ∧
    render (.bin .sub (.bin .sub (.ref ['a']) (.ref ['b'])) (.ref ['c'])) = "a - b - c".toList := by decide

section Rename
variable {V : Type} (S : Sem V) (src dst : List Char)

theorem bind_agree_off (ρ ρ' : Env V) (d : List Char) (h : ∀ n, n ≠ d → ρ' n = ρ n) :
    ∀ (args : List (List Char)) (vs : List V) (n : List Char), n ≠ d → bindArgs ρ' args vs n = bindArgs ρ args vs n
  | [], _, n, hn | _ :: _, [], n, hn => h n hn
  | a :: as, v :: vs, n, hn => by simp only [bindArgs, bind_agree_off ρ ρ' d h as vs n hn]

theorem bindArgs_skip (ρ : Env V) (n : List Char) :
    ∀ (args : List (List Char)) (vs : List V), (∀ a ∈ args, lowerName a ≠ n) → bindArgs ρ args vs n = ρ n
  | [], _, _ | _ :: _, [], _ => rfl
  | a :: as, v :: vs, h => by
    simp only [bindArgs, if_neg (Ne.symm (h a (List.mem_cons_self ..))),
      bindArgs_skip ρ n as vs fun x hx => h x (List.mem_cons_of_mem _ hx)]

mutual
  theorem eval_fresh (d : List Char) : ∀ (e : Expr) (ρ ρ' : Env V), (∀ n, n ≠ d → ρ' n = ρ n) → fresh d e →
      eval S ρ' e = eval S ρ e
    | .ref n, ρ, ρ', h, hf => by simp only [eval, h _ hf]
    | .dot c l, ρ, ρ', h, hf => by simp only [eval, eval_fresh d c ρ ρ' h hf]
    | .idx c e, ρ, ρ', h, ⟨h1, h2⟩ => by simp only [eval, eval_fresh d c ρ ρ' h h1, eval_fresh d e ρ ρ' h h2]
    | .call f ps, ρ, ρ', h, ⟨h1, h2⟩ => by simp only [eval, eval_fresh d f ρ ρ' h h1, evalArgs_fresh d ps ρ ρ' h h2]
    | .lam args b, ρ, ρ', h, ⟨_, h2⟩ => by
      simp only [eval, fun vs => eval_fresh d b _ _ (bind_agree_off ρ ρ' d h args vs) h2]
    | .bin o l r, ρ, ρ', h, ⟨h1, h2⟩ => by simp only [eval, eval_fresh d l ρ ρ' h h1, eval_fresh d r ρ ρ' h h2]
    | .neg e, ρ, ρ', h, hf => by simp only [eval, eval_fresh d e ρ ρ' h hf]
    | .paren e, ρ, ρ', h, hf => by simp only [eval, eval_fresh d e ρ ρ' h hf]
    | .text _, _, _, _, _ | .num _, _, _, _, _ | .bool _, _, _, _, _ | .null, _, _, _, _ => rfl
  theorem evalArgs_fresh (d : List Char) : ∀ (ps : Args) (ρ ρ' : Env V), (∀ n, n ≠ d → ρ' n = ρ n) → freshArgs d ps →
      evalArgs S ρ' ps = evalArgs S ρ ps
    | .nil, _, _, _, _ => rfl
    | .cons e rest, ρ, ρ', h, ⟨h1, h2⟩ => by
      simp only [evalArgs, eval_fresh d e ρ ρ' h h1, evalArgs_fresh d rest ρ ρ' h h2]
end

/-- the two scopes the renaming relates: `dst` now holds what `src` held, every other name is unchanged -/
def Moved (ρ ρ' : Env V) : Prop :=
  (∀ n, n ≠ lowerName dst → ρ' n = ρ n) ∧ ρ' (lowerName dst) = ρ (lowerName src)

theorem bind_moved (ρ ρ' : Env V) (h : Moved src dst ρ ρ') (args : List (List Char)) (vs : List V)
    (hs : ∀ a ∈ args, lowerName a ≠ lowerName src) (hd : ∀ a ∈ args, lowerName a ≠ lowerName dst) :
    Moved src dst (bindArgs ρ args vs) (bindArgs ρ' args vs) :=
  ⟨bind_agree_off ρ ρ' _ h.1 args vs, by rw [bindArgs_skip ρ' _ args vs hd, bindArgs_skip ρ _ args vs hs]; exact h.2⟩

mutual
  /-- **Renaming preserves the value**: in a scope where the value has moved from `src` to `dst`
  (a name that does not occur), the renamed expression evaluates to what the original did — for
  the whole language, every value domain and every scope (`hm`: a name missing from the scope is
  the same failure under either name). -/
  theorem rename_eval (hm : S.missing (lowerName dst) = S.missing (lowerName src)) :
      ∀ (e : Expr) (ρ ρ' : Env V), Moved src dst ρ ρ' → fresh (lowerName dst) e →
      eval S ρ' (rename src dst e) = eval S ρ e
    | .ref n, ρ, ρ', h, hf => by
      simp only [rename]
      split
      next hn => simp only [eval, hn, h.2, hm]
      · simp only [eval, h.1 _ hf]
    | .dot c l, ρ, ρ', h, hf => by simp only [rename, eval, rename_eval hm c ρ ρ' h hf]
    | .idx c e, ρ, ρ', h, ⟨h1, h2⟩ => by
      simp only [rename, eval, rename_eval hm c ρ ρ' h h1, rename_eval hm e ρ ρ' h h2]
    | .call f ps, ρ, ρ', h, ⟨h1, h2⟩ => by
      simp only [rename, eval, rename_eval hm f ρ ρ' h h1, renameArgs_eval hm ps ρ ρ' h h2]
    | .lam args b, ρ, ρ', h, ⟨h1, h2⟩ => by
      simp only [rename]
      split
      · -- a parameter rebinds the name: the body is untouched and `dst` does not occur in it
        simp only [eval, fun vs => eval_fresh S (lowerName dst) b _ _ (bind_agree_off ρ ρ' _ h.1 args vs) h2]
      next hno =>
        have hs : ∀ a ∈ args, lowerName a ≠ lowerName src := fun a ha heq =>
          hno (List.any_eq_true.2 ⟨a, ha, beq_iff_eq.2 heq⟩)
        simp only [eval, fun vs => rename_eval hm b _ _ (bind_moved src dst ρ ρ' h args vs hs h1) h2]
    | .bin o l r, ρ, ρ', h, ⟨h1, h2⟩ => by
      simp only [rename, eval, rename_eval hm l ρ ρ' h h1, rename_eval hm r ρ ρ' h h2]
    | .neg e, ρ, ρ', h, hf => by simp only [rename, eval, rename_eval hm e ρ ρ' h hf]
    | .paren e, ρ, ρ', h, hf => by simp only [rename, eval, rename_eval hm e ρ ρ' h hf]
    | .text _, _, _, _, _ | .num _, _, _, _, _ | .bool _, _, _, _, _ | .null, _, _, _, _ => rfl
  theorem renameArgs_eval (hm : S.missing (lowerName dst) = S.missing (lowerName src)) :
      ∀ (ps : Args) (ρ ρ' : Env V), Moved src dst ρ ρ' → freshArgs (lowerName dst) ps →
      evalArgs S ρ' (renameArgs src dst ps) = evalArgs S ρ ps
    | .nil, _, _, _, _ => rfl
    | .cons e rest, ρ, ρ', h, ⟨h1, h2⟩ => by
      simp only [renameArgs, evalArgs, rename_eval hm e ρ ρ' h h1, renameArgs_eval hm rest ρ ρ' h h2]
end

end Rename

mutual
  /-- **Exactly the renamed references change**: an expression in which the name does not occur is
  returned as it is. -/
  theorem rename_only_renamed (src dst : List Char) : ∀ e : Expr, fresh (lowerName src) e → rename src dst e = e
    | .ref n, hf => by simp only [rename, if_neg hf]
    | .dot c l, hf => by simp only [rename, rename_only_renamed src dst c hf]
    | .idx c e, ⟨h1, h2⟩ => by simp only [rename, rename_only_renamed src dst c h1, rename_only_renamed src dst e h2]
    | .call f ps, ⟨h1, h2⟩ => by
      simp only [rename, rename_only_renamed src dst f h1, renameArgs_only_renamed src dst ps h2]
    | .lam args b, ⟨_, h2⟩ => by simp only [rename, rename_only_renamed src dst b h2, ite_self]
    | .bin o l r, ⟨h1, h2⟩ => by simp only [rename, rename_only_renamed src dst l h1, rename_only_renamed src dst r h2]
    | .neg e, hf => by simp only [rename, rename_only_renamed src dst e hf]
    | .paren e, hf => by simp only [rename, rename_only_renamed src dst e hf]
    | .text _, _ | .num _, _ | .bool _, _ | .null, _ => rfl
  theorem renameArgs_only_renamed (src dst : List Char) : ∀ ps : Args, freshArgs (lowerName src) ps → renameArgs src dst ps = ps
    | .nil, _ => rfl
    | .cons e rest, ⟨h1, h2⟩ => by
      simp only [renameArgs, rename_only_renamed src dst e h1, renameArgs_only_renamed src dst rest h2]
end

mutual
  /-- `ContextRefRename` as it was: every reference with the name, bound or not -/
  def renameNaive (src dst : List Char) : Expr → Expr
    | .ref n => if lowerName n = lowerName src then .ref dst else .ref n
    | .dot c l => .dot (renameNaive src dst c) l
    | .idx c e => .idx (renameNaive src dst c) (renameNaive src dst e)
    | .call f ps => .call (renameNaive src dst f) (renameNaiveArgs src dst ps)
    | .lam args b => .lam args (renameNaive src dst b)
    | .bin o l r => .bin o (renameNaive src dst l) (renameNaive src dst r)
    | .neg e => .neg (renameNaive src dst e)
    | .paren e => .paren (renameNaive src dst e)
    | e => e
  def renameNaiveArgs (src dst : List Char) : Args → Args
    | .nil => .nil
    | .cons e rest => .cons (renameNaive src dst e) (renameNaiveArgs src dst rest)
end

/-- a tiny value domain: texts; a function value is shown by applying it to the text `p` -/
def S₀ : Sem (List Char) where
  binop _ a b := a ++ b
  neg a := a
  dot a _ := a
  idx a _ := a
  call f _ := f
  closure _ f := f [['p']]
  text v := v
  num s := s
  bool _ := []
  null := []
  missing _ := ['?']

/-- `(foo) => foo`, with `foo = c` in the context moved to `zed`: the original gives the argument;
renamed the old way it gives the context value, renamed the repaired way it still gives the argument -/
theorem rename_capture_witness :
    let e := Expr.lam [['f', 'o', 'o']] (.ref ['f', 'o', 'o'])
    let ρ : Env (List Char) := fun n => if n = ['f', 'o', 'o'] then some ['c'] else none
    let ρ' : Env (List Char) := fun n => if n = ['z', 'e', 'd'] then some ['c'] else none
    eval S₀ ρ e = ['p'] ∧
    eval S₀ ρ' (renameNaive ['f', 'o', 'o'] ['z', 'e', 'd'] e) = ['c'] ∧
    eval S₀ ρ' (rename ['f', 'o', 'o'] ['z', 'e', 'd'] e) = ['p'] := by
  decide

/-! ### the grammar the parser was written from (regenerated from the source on every run) -/

theorem grammar_rules_pinned :
    Gen.Grammar.excellent3Rules.lookup "expression" = some ("atom # atomReference | MINUS expression # negation | expression EXPONENT expression # exponent | " ++
      "expression op = (TIMES | DIVIDE) expression # multiplicationOrDivision | expression op = (PLUS | MINUS) expression # additionOrSubtraction | " ++
      "expression op = (LTE | LT | GTE | GT) expression # comparison | expression op = (EQ | NEQ) expression # equality | " ++
      "expression AMPERSAND expression # concatenation | LPAREN nameList RPAREN ARROW expression # anonFunction | TEXT # textLiteral | " ++
      "(INTEGER | DECIMAL) # numberLiteral | TRUE # true | FALSE # false | NULL # null") ∧
    Gen.Grammar.excellent3Rules.lookup "atom" = some ("atom LPAREN parameters? RPAREN # functionCall | atom DOT (NAME | INTEGER) # dotLookup | " ++
      "atom LBRACK expression RBRACK # arrayLookup | LPAREN expression RPAREN # parentheses | NAME # contextReference") ∧
    Gen.Grammar.excellent3Rules.lookup "parameters" = some "expression (COMMA expression)* # functionParameters" ∧
    Gen.Grammar.excellent3Rules.lookup "parse" = some "expression EOF" := by
  -- the lookups compare short keys; a rule text written as one literal is the table's literal
  simp only [Gen.Grammar.excellent3Rules, List.lookup, String.reduceBEq, Option.some.injEq, and_true]
  rw [← String.ofList_append, ← String.ofList_append, ← String.ofList_append, ← String.ofList_append, ← String.ofList_append]
  constructor <;> exact eq_ofList (by with_reducible rfl) (by decide +kernel)

end GoflowModel.Props.C11
