import GoflowModel.Engine.Persist
import GoflowModel.Gen.Structs
import GoflowModel.Props.C01
/-!
# C02 — Persisting a session between waits is transparent

(1) Round trip at the level of the engine model: restoring a persisted session succeeds and
gives back the same session, for every session the engine can hand back — this rests on the
invariant that a run's parent is an earlier run (`PBC`, proved for every reachable session), which
is what makes `ReadRun`'s parent lookup among the runs already read succeed.
(2) Every in-memory field of `session`, `run` and `step` (regenerated from the source on every
run) is classified as persisted, derived or transient, and every envelope field is accounted
for; the engine model's `resume` is a function of the persisted state only (`pushed` is `none`
between calls), so the behaviour of a resume cannot depend on a transient field the model does
not have — the two-branch monitor checks exactly that on the implementation.
-/
namespace GoflowModel.Props.C02
open GoflowModel.Engine

/-- runs `0 … n-1` have been read and are known by position -/
def seenUpTo (n : Nat) : List (Nat × Nat) := (List.range n).map fun i => (i, i)

theorem seenUpTo_succ (n : Nat) : seenUpTo n ++ [(n, (seenUpTo n).length)] = seenUpTo (n + 1) := by
  simp [seenUpTo, List.range_succ]

theorem seenUpTo_lookup (n u : Nat) : (seenUpTo n).lookup u = if u < n then some u else none := by
  induction n with
  | zero => rfl
  | succ n ih =>
    rw [← seenUpTo_succ, List.lookup_append, ih]
    by_cases hu : u < n
    · simp [hu, Nat.lt_succ_of_lt hu]
    · by_cases e : u = n <;> simp [hu, e, seenUpTo] <;> omega

theorem restoreRuns_persistRuns (n : Nat) (rs : List Run)
    (h : ∀ (i : Nat) (p : Nat), (rs.map (·.parent))[i]? = some (some p) → p < n + i) :
    restoreRuns (seenUpTo n) (persistRuns n rs) = some rs := by
  induction rs generalizing n with
  | nil => rfl
  | cons r rs ih =>
    obtain ⟨fl, par, st, ex, pa, ev⟩ := r
    simp only [persistRuns, restoreRuns]
    rw [seenUpTo_succ, ih (n + 1) fun i p hp => by have := h (i + 1) p (by simpa using hp); omega]
    cases par with
    | none => rfl
    | some u =>
      -- the parent named by UUID is found among the `n` runs already read
      have hu : u < n := h 0 u (by simp)
      simp [seenUpTo_lookup, hu]

/-- **Round trip.** A session whose runs' parents are earlier runs and which has no pushed flow
is restored exactly from its persisted form. -/
theorem restore_persist (s : Session) (hp : PBC s) (hn : s.pushed = none) :
    restore (persist s) = some s := by
  simp only [restore, persist]
  have := restoreRuns_persistRuns 0 s.runs (fun i p h => by have := hp i p h; omega)
  simp only [seenUpTo, List.range_zero, List.map_nil] at this
  rw [this]
  cases s; simp_all

/-- …and persisting the restored session gives the same persisted form. -/
theorem persist_restore_persist (s : Session) (hp : PBC s) (hn : s.pushed = none) :
    (restore (persist s)).map persist = some (persist s) := by
  rw [restore_persist s hp hn]; rfl

/-- without the invariant the read fails: a run whose parent comes later cannot be restored -/
theorem restore_needs_parent_before_child :
    restore (persist ⟨[⟨0, some 1, .active, false, [], []⟩, ⟨0, none, .active, false, [], []⟩], .waiting, none⟩) = none := by
  decide

/-- every session the engine hands back satisfies both hypotheses -/
theorem reachable_roundtrip (a : Assets) (o : Opts) (s : Session) (h : C01.Reachable a o s) :
    restore (persist s) = some s :=
  have p := C01.reachable_post a o s h
  restore_persist s p.pbc p.pushed

/-- **Restart transparency** at the level of the model: resuming the restored session is
resuming the original one — for every reachable session, resume and oracle. -/
theorem restart_transparent (a : Assets) (o : Opts) (orc : Oracle) (s : Session) (k : ResumeKind)
    (h : C01.Reachable a o s) :
    (restore (persist s)).map (fun s' => resume a o orc s' k) = some (resume a o orc s k) := by
  rw [reachable_roundtrip a o s h]; rfl

/-- `session`: persisted through `sessionEnvelope`, derived on read, or transient -/
def sessionPersisted := ["uuid", "type_", "env", "trigger", "contact", "runs", "status", "input"]
def sessionDerived := ["assets", "engine", "runsByUUID", "parentRun"]
def sessionTransient := ["currentResume", "batchStart", "pushedFlow"]

def runPersisted := ["uuid", "flowRef", "parent", "results", "path", "events", "status", "createdOn", "modifiedOn", "exitedOn"]
def runDerived := ["session", "flow", "legacyExtra", "webhook"]

/-- every field of the three structs is classified, and the envelopes carry exactly the
persisted ones (`wait` in the session envelope is a legacy field that is read and ignored) -/
theorem fields_classified :
    Gen.Structs.sessionFields.map (·.1) =
      ["assets", "uuid", "type_", "env", "trigger", "currentResume", "contact", "runs", "status", "input",
       "batchStart", "runsByUUID", "pushedFlow", "parentRun", "engine"] ∧
    (Gen.Structs.sessionFields.map (·.1)).all
      (fun f => sessionPersisted.contains f || sessionDerived.contains f || sessionTransient.contains f) = true ∧
    Gen.Structs.sessionEnvelopeFields.map (·.2) =
      ["uuid", "type", "environment", "trigger", "contact", "runs", "status", "wait", "input"] ∧
    (Gen.Structs.runFields.map (·.1)).all (fun f => runPersisted.contains f || runDerived.contains f) = true ∧
    Gen.Structs.runFields.length = 14 ∧
    Gen.Structs.runEnvelopeFields.map (·.2) =
      ["uuid", "flow", "path", "events", "results", "status", "parent_uuid", "created_on", "modified_on", "exited_on"] ∧
    Gen.Structs.stepFields.map (·.1) = ["stepUUID", "nodeUUID", "exitUUID", "arrivedOn"] ∧
    Gen.Structs.stepEnvelopeFields.map (·.2) = ["uuid", "node_uuid", "exit_uuid", "arrived_on"] :=
  ⟨rfl, by decide +kernel, rfl, by decide +kernel, rfl, rfl, rfl, rfl⟩

end GoflowModel.Props.C02
