import GoflowModel.Engine.Router
import GoflowModel.Lemmas.EngineCore
/-!
# C07 — Routers take the exit their definition prescribes

Decision logic stated outright over `Engine/Router.lean`.  Test semantics is an oracle
(`TestOutcome` per case); all theorems quantify over every router, operand and outcome list.
-/
namespace GoflowModel.Props.C07
open GoflowModel.Router

def NoneMatched (os : List TestOutcome) : Prop := ∀ o ∈ os, ∀ m, o ≠ .matched m

theorem matchCase_skip (pre os : List TestOutcome) (cs : List Nat) (h : NoneMatched pre) :
    matchCase cs (pre ++ os) = matchCase (cs.drop pre.length) os := by
  induction pre generalizing cs with
  | nil => rfl
  | cons o pre ih =>
    have ih := fun cs => ih cs fun x hx => h x (List.mem_cons_of_mem _ hx)
    cases cs with
    | nil => cases os <;> cases o <;> rfl
    | cons c cs => cases o with
      | matched m => exact absurd rfl (h _ List.mem_cons_self m)
      | noMatch | error => exact ih cs

theorem matchCase_first (pre : List TestOutcome) (m : List Char) (post : List TestOutcome)
    (cs : List Nat) (h : NoneMatched pre) (hl : pre.length < cs.length) :
    matchCase cs (pre ++ .matched m :: post) = some (m, cs[pre.length]'hl) := by
  rw [matchCase_skip _ _ _ h, List.drop_eq_getElem_cons hl, matchCase]

theorem matchCase_none (cs : List Nat) (os : List TestOutcome) (h : NoneMatched os) :
    matchCase cs os = none := by
  rw [← List.append_nil os, matchCase_skip _ _ _ h]
  cases cs.drop os.length <;> rfl

/-- A switch router leaves by the exit of the category of the **first** case, in definition
order, whose test matched — erroring and non-matching earlier cases are skipped — saving that
category's name, the test's match as value and the operand as input. -/
theorem switch_first_match (r : Switch) (operand : List Char) (pre post : List TestOutcome)
    (m : List Char) (h : NoneMatched pre) (hl : pre.length < r.cases.length) (c : Category)
    (hc : r.categories[r.cases[pre.length]'hl]? = some c) :
    routeSwitch r operand (pre ++ .matched m :: post) =
      ⟨c.exit, r.resultName.map fun n => ⟨n, m, c.name, operand⟩⟩ := by
  simp only [routeSwitch, matchCase_first pre m post r.cases h hl, routeToCategory, hc]

/-- an erroring earlier case neither matches nor stops the scan (instance of the above) -/
theorem switch_error_case_skipped (r : Switch) (operand m : List Char) (post : List TestOutcome)
    (hl : 1 < r.cases.length) (c : Category) (hc : r.categories[r.cases[1]'hl]? = some c) :
    (routeSwitch r operand (.error :: .matched m :: post)).exit = c.exit := by
  exact congrArg Routed.exit (switch_first_match r operand [.error] post m (by simp [NoneMatched]) hl c hc)

/-- Otherwise the default category's exit, with the operand itself as value. -/
theorem switch_default (r : Switch) (operand : List Char) (os : List TestOutcome) (h : NoneMatched os)
    (d : Nat) (hd : r.default = some d) (c : Category) (hc : r.categories[d]? = some c) :
    routeSwitch r operand os = ⟨c.exit, r.resultName.map fun n => ⟨n, operand, c.name, operand⟩⟩ := by
  simp only [routeSwitch, matchCase_none r.cases os h, hd, routeToCategory, hc]

/-- A router that selects no category selects no exit and saves nothing: the engine then fails
the run (`pickNodeExit` with `RouteChoice.noCategory`) instead of choosing arbitrarily. -/
theorem no_category_no_exit (r : Switch) (operand : List Char) (os : List TestOutcome) (h : NoneMatched os)
    (hd : r.default = none) : routeSwitch r operand os = ⟨none, none⟩ := by
  simp only [routeSwitch, matchCase_none r.cases os h, hd, routeToCategory]

open GoflowModel.Engine in
theorem no_category_fails_run (st : St) (r : Nat) (node : Node) (step : StepRef) (evs : List EvK)
    (hr : node.hasRouter = true) (x : Run) (hx : st.s.runs[r]? = some x) :
    pickNodeExit st r node step evs .noCategory =
      .ok (failRun (logEvents st r (some step) evs) r (some step)) none ∧
    runStatus (failRun (logEvents st r (some step) evs) r (some step)).s r = some .failed := by
  refine ⟨by simp [pickNodeExit, hr], ?_⟩
  rw [runStatus_failRun, runStatus_logEvents, runStatus_of_getElem? hx]
  rfl

/-- A timeout resume leaves by the wait's timeout category. -/
theorem timeout_category (cats : List Category) (rn : Option (List Char)) (t : Nat) (ts : List Char)
    (c : Category) (hc : cats[t]? = some c) :
    routeTimeout cats rn t ts = ⟨c.exit, rn.map fun n => ⟨n, ts, c.name, []⟩⟩ := by
  simp [routeTimeout, routeToCategory, hc]

/-- A random router takes category `⌊r·n⌋`, which is a valid category index for `0 ≤ r < 1`. -/
theorem random_floor (num den n : Nat) (hd : 0 < den) (hr : num < den) (hn : 0 < n) :
    randomIndex num den n < n ∧
    randomIndex num den n * den ≤ num * n ∧ num * n < (randomIndex num den n + 1) * den := by
  unfold randomIndex
  refine ⟨?_, Nat.div_mul_le_self _ _, ?_⟩
  · apply Nat.div_lt_of_lt_mul
    exact Nat.mul_lt_mul_of_pos_right hr hn
  · have := Nat.lt_mul_div_succ (num * n) hd
    rw [Nat.mul_comm den] at this; exact this

/-- A node without a router leaves by its first exit. -/
theorem no_router_first_exit (n : Nat) (h : 0 < n) : routeNoRouter n = some 0 :=
  if_neg (Nat.ne_of_gt h)

/-- the exit taken is always the selected category's own exit (`exit_is_category_exit`), and a
result is saved exactly when a result name is set and a category was selected -/
theorem routed_exit_is_category_exit (cats : List Category) (rn : Option (List Char)) (ci : Nat)
    (m op : List Char) (c : Category) (hc : cats[ci]? = some c) :
    (routeToCategory cats rn (some ci) m op).exit = c.exit ∧
    ((routeToCategory cats rn (some ci) m op).result.isSome ↔ rn.isSome) := by
  simp [routeToCategory, hc]

end GoflowModel.Props.C07
