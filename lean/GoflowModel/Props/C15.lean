import GoflowModel.Lemmas.CQL
/-!
# C15 — Contact query evaluation is total and logically consistent

Model: `ContactQL.eval` (boolean skeleton of `evaluateNode`), `simplify` (`Simplify()`),
`combineVals` (the any/all combination of `evaluateCondition`), `numCmp` / `dateCmp`
(`numberComparison` / `dateComparison`, `none` = the Go `panic`).  Numbers are integers at a
common scale and instants are integers; the day range `[s, e)` of the query value is a
parameter with `s < e` (computed by `dates.DayToUTCRange`, which is outside the model).
-/
namespace GoflowModel.Props.C15
open GoflowModel ContactQL

/-- AND / OR are conjunction / disjunction of the children's results. -/
theorem eval_and (q : Cond → Bool) (cs : List Node) :
    eval q (.comb true cs) = cs.all (eval q) := by
  rw [eval, evalAll_eq_all]

theorem eval_or (q : Cond → Bool) (cs : List Node) :
    eval q (.comb false cs) = cs.any (eval q) := by
  rw [eval, evalAny_eq_any]

mutual
/-- Simplification of a query in which every combination has at least one child (parsed
queries have at least two) returns a query of the same value, whatever the conditions mean. -/
theorem simplify_spec (q : Cond → Bool) : (n : Node) → NonEmpty n = true →
    ∃ m, simplify n = some m ∧ wellShaped m = true ∧ eval q m = eval q n
  | .cond c, _ => ⟨.cond c, rfl, rfl, rfl⟩
  | .comb a cs, h => by
    simp only [NonEmpty, Bool.and_eq_true, Bool.not_eq_true', List.isEmpty_eq_false_iff] at h
    obtain ⟨hsh, hall, hany, hlen⟩ := simplifyList_spec q cs h.2
    have hne : simplifyList cs ≠ [] := fun e => h.1 (List.eq_nil_of_length_eq_zero (by rw [← hlen, e]; rfl))
    have hp := promote_ne_nil a (simplifyList cs) hne hsh
    refine ⟨_, simplify_comb a cs hp, ?_, ?_⟩
    · rw [wellShaped_flat a _ hp, wellShapedList_promote a _ hsh]
    · rw [eval_flat, eval_promote]
      cases a <;> simp only [eval, hall, hany]
theorem simplifyList_spec (q : Cond → Bool) : (cs : List Node) → nonEmptyList cs = true →
    wellShapedList (simplifyList cs) = true ∧ evalAll q (simplifyList cs) = evalAll q cs ∧
    evalAny q (simplifyList cs) = evalAny q cs ∧ (simplifyList cs).length = cs.length
  | [], _ => by simp [simplifyList, wellShapedList]
  | n :: ns, h => by
    simp only [nonEmptyList, Bool.and_eq_true] at h
    obtain ⟨m, hm, hs, he⟩ := simplify_spec q n h.1
    obtain ⟨ih1, ih2, ih3, ih4⟩ := simplifyList_spec q ns h.2
    simp only [simplifyList, hm]
    refine ⟨?_, ?_, ?_, ?_⟩
    · simp [wellShapedList, hs, ih1]
    · simp [evalAll, he, ih2]
    · simp [evalAny, he, ih3]
    · simp [ih4]
end

/-- `eval (simplify q) = eval q` -/
theorem eval_simplify (q : Cond → Bool) (n : Node) (h : NonEmpty n = true) :
    ∃ m, simplify n = some m ∧ eval q m = eval q n := by
  obtain ⟨m, h1, _, h3⟩ := simplify_spec q n h
  exact ⟨m, h1, h3⟩

/-- non-vacuity: a parsed-shape query satisfies the hypothesis and is really restructured -/
example : NonEmpty (.comb true [.comb true [.cond default, .cond default], .cond default]) = true ∧
    simplify (.comb true [.comb true [.cond default, .cond default], .cond default]) =
      some (.comb true [.cond default, .cond default, .cond default]) := ⟨by rfl, by rfl⟩

/-- an empty-valued `=` tests absence, an empty-valued `!=` presence -/
theorem empty_eq_absent (rs : List Bool) : combineVals .eq true rs = rs.isEmpty := by
  simp [combineVals]

theorem empty_neq_present (rs : List Bool) : combineVals .neq true rs = !rs.isEmpty := by
  simp [combineVals]

/-- `!=` (all values differ) is the negation of `=` (some value equals), for any number of values -/
theorem neq_negation_multi (eqs : List Bool) :
    combineVals .neq false (eqs.map (!·)) = !combineVals .eq false eqs := by
  simp [combineVals, List.not_any_eq_all_not]

/-- numbers: exactly one of `<`, `=`, `>` holds -/
theorem num_trichotomy (obj qv : Int) :
    (numCmp obj .lt qv = some true ∧ numCmp obj .eq qv = some false ∧ numCmp obj .gt qv = some false) ∨
    (numCmp obj .lt qv = some false ∧ numCmp obj .eq qv = some true ∧ numCmp obj .gt qv = some false) ∨
    (numCmp obj .lt qv = some false ∧ numCmp obj .eq qv = some false ∧ numCmp obj .gt qv = some true) := by
  simp only [numCmp, Option.some.injEq, decide_eq_true_eq, decide_eq_false_iff_not, beq_iff_eq, beq_eq_false_iff_ne]
  omega

theorem num_le_union (obj qv : Int) :
    numCmp obj .lte qv = some (obj < qv || obj == qv) := by
  simp only [numCmp, Option.some.injEq]
  rw [Bool.eq_iff_iff]; simp; omega

theorem num_ge_union (obj qv : Int) :
    numCmp obj .gte qv = some (obj > qv || obj == qv) := by
  simp only [numCmp, Option.some.injEq]
  rw [Bool.eq_iff_iff]; simp; omega

theorem num_neq_negation (obj qv : Int) :
    numCmp obj .neq qv = (numCmp obj .eq qv).map (!·) := by
  simp [numCmp, bne]

/-- dates, compared by the calendar day `[s, e)` of the query value: the same algebra -/
theorem date_trichotomy (obj s e : Int) (hse : s < e) :
    (dateCmp obj .lt s e = some true ∧ dateCmp obj .eq s e = some false ∧ dateCmp obj .gt s e = some false) ∨
    (dateCmp obj .lt s e = some false ∧ dateCmp obj .eq s e = some true ∧ dateCmp obj .gt s e = some false) ∨
    (dateCmp obj .lt s e = some false ∧ dateCmp obj .eq s e = some false ∧ dateCmp obj .gt s e = some true) := by
  simp only [dateCmp, Option.some.injEq, decide_eq_true_eq, decide_eq_false_iff_not, Bool.and_eq_true, Bool.and_eq_false_iff]
  omega

theorem date_le_union (obj s e : Int) (hse : s < e) :
    dateCmp obj .lte s e = some (obj < s || (s ≤ obj && obj < e)) := by
  simp only [dateCmp, Option.some.injEq]
  rw [Bool.eq_iff_iff]; simp; omega

theorem date_ge_union (obj s e : Int) (hse : s < e) :
    dateCmp obj .gte s e = some (e ≤ obj || (s ≤ obj && obj < e)) := by
  simp only [dateCmp, Option.some.injEq]
  rw [Bool.eq_iff_iff]; simp; omega

theorem date_neq_negation (obj s e : Int) :
    dateCmp obj .neq s e = (dateCmp obj .eq s e).map (!·) := by
  simp [dateCmp]

/-- the day-range hypothesis is needed: with an empty range `=` and `<`/`>` are not exhaustive -/
example : dateCmp 5 .lt 5 5 = some false ∧ dateCmp 5 .eq 5 5 = some false ∧ dateCmp 5 .gt 5 5 = some true := by
  decide

/-- validation admits `~` only for text (name / URN) properties, so the comparison primitives
never reach their panicking default. -/
theorem validated_no_panic (obj qv s e : Int) (op : Op) (h : op ≠ .contains) :
    (numCmp obj op qv).isSome ∧ (dateCmp obj op s e).isSome := by
  cases op <;> simp_all [numCmp, dateCmp]

end GoflowModel.Props.C15
