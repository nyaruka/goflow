import GoflowModel.Engine.Migrate
import GoflowModel.Gen.Migrations
import GoflowModel.Props.C11
/-!
# C16 — Definition migration yields valid, equivalent, stable flows

About the migration driver, for every set of registered versions, every per-version function and
every definition: a definition at or past the newest registered version is returned untouched;
migrating in steps is migrating in one go; migrating again changes nothing; and whatever every
per-version function preserves (the flow's UUID, its nodes, exits and destinations) the whole
migration preserves.  About 13.6: limiting a name is idempotent and establishes the limit.
Regenerated from the source on every run: the migration functions with their versions, and every
key they write — none of them is a key that carries the flow's identity or connectivity.
The one rewrite of expressions a migration makes (13.3: `@webhook` becomes `@webhook.json`) keeps what
every expression evaluates to (`rewrite_13_3_preserves_value`, the renaming theorem of C11 at that
instance).  The other per-version functions, the legacy migration and the rejection clause are decided on
the implementation (monitors over the repository's stored definitions, generated definitions at
every source version, and mutated/hostile inputs).
-/
namespace GoflowModel.Props.C16
open GoflowModel.Migrate List

theorem filter_sorted_eq (l : List Nat) (h : l.Pairwise (fun a b => a ≤ b)) :
    l.mergeSort (fun a b => decide (a ≤ b)) = l :=
  mergeSort_of_pairwise (by simpa using h)

theorem pending_sorted (reg : List Nat) (a b : Nat) : (pending reg a b).Pairwise (fun x y => x ≤ y) :=
  (pairwise_mergeSort (le := fun a b => decide (a ≤ b)) (by intro a b c; simp; omega) (by intro a b; simp; omega) _).imp
    of_decide_eq_true

theorem mem_pending (reg : List Nat) (a b v : Nat) : v ∈ pending reg a b ↔ v ∈ reg ∧ a < v ∧ v ≤ b := by
  simp [pending, mem_mergeSort]

/-- **A definition already at (or past) the newest registered version is returned untouched.** -/
theorem current_untouched {P : Type} (ms : Nat → P → P) (reg : List Nat) (to : Nat) (d : Def P)
    (h : ∀ v ∈ reg, v ≤ d.version) : migrateTo ms reg to d = d := by
  have : pending reg d.version to = [] := eq_nil_iff_forall_not_mem.2 fun v hv => by
    have hv := (mem_pending ..).1 hv
    have := h v hv.1
    omega
  simp [migrateTo, this]

theorem pending_split (reg : List Nat) (a b c : Nat) (hab : a ≤ b) (hbc : b ≤ c) :
    pending reg a c = pending reg a b ++ pending reg b c := by
  apply Perm.eq_of_pairwise (le := (· ≤ ·)) (fun _ _ _ _ => Nat.le_antisymm) (pending_sorted ..)
  · rw [pairwise_append]
    refine ⟨pending_sorted .., pending_sorted .., fun x hx y hy => ?_⟩
    have hx := (mem_pending ..).1 hx
    have hy := (mem_pending ..).1 hy
    omega
  · -- of the registered versions in `(a, c]`, those `≤ b` are the ones in `(a, b]` and the others the ones in `(b, c]`
    have h1 : ∀ v, (decide (v ≤ b) && (decide (a < v) && decide (v ≤ c))) = (decide (a < v) && decide (v ≤ b)) := by grind
    have h2 : ∀ v, (!decide (v ≤ b) && (decide (a < v) && decide (v ≤ c))) = (decide (b < v) && decide (v ≤ c)) := by grind
    have := filter_append_perm (fun v => decide (v ≤ b)) (reg.filter fun v => decide (a < v) && decide (v ≤ c))
    simp only [filter_filter, h1, h2] at this
    exact (mergeSort_perm ..).trans (this.symm.trans ((mergeSort_perm ..).append (mergeSort_perm ..)).symm)

/-- **Stepwise is in one go**: migrating to `b` and then to `c` is migrating to `c`. -/
theorem migrate_compose {P : Type} (ms : Nat → P → P) (reg : List Nat) (b c : Nat) (d : Def P)
    (hab : d.version ≤ b) (hbc : b ≤ c) :
    migrateTo ms reg c (migrateTo ms reg b d) = migrateTo ms reg c d := by
  unfold migrateTo
  rw [pending_split reg d.version b c hab hbc, foldl_append]
  rcases eq_nil_or_concat (pending reg d.version b) with hnil | ⟨ys, z, hys⟩
  · rw [hnil, foldl_nil, pending_split reg d.version b c hab hbc, hnil, nil_append]
  · -- the version reached is the last pending one, `z`, and the greatest: from there nothing is pending up to `b` either
    have hs := pending_sorted reg d.version b
    have hm := mem_pending reg d.version b
    rw [hys, concat_eq_append] at hs hm ⊢
    have hz := (hm z).1 (by simp)
    have hnil : pending reg z b = [] := eq_nil_iff_forall_not_mem.2 fun v hv => by
      have hv := (mem_pending ..).1 hv
      rcases mem_append.1 ((hm v).2 ⟨hv.1, by omega, hv.2.2⟩) with h | h
      · have := (pairwise_append.1 hs).2.2 v h z (mem_singleton_self z); omega
      · have := mem_singleton.1 h; omega
    rw [foldl_append, foldl_cons, foldl_nil, pending_split reg z b c hz.2.2 hbc, hnil, nil_append]

/-- **Migrating again changes nothing.**  (`hn` is not used.) -/
theorem migrate_idem {P : Type} (ms : Nat → P → P) (reg : List Nat) (hn : reg.Nodup) (c : Nat) (d : Def P)
    (h : d.version ≤ c) : migrateTo ms reg c (migrateTo ms reg c d) = migrateTo ms reg c d :=
  migrate_compose ms reg c c d h (Nat.le_refl c)

/-- non-vacuity: versions 1…6 registered, a definition at 2 gets 3, 4, 5, 6 in that order -/
example : (migrateTo (fun v (p : List Nat) => p ++ [v]) [1, 2, 3, 4, 5, 6] 6 ⟨2, []⟩).payload = [3, 4, 5, 6] := by
  have : pending [1, 2, 3, 4, 5, 6] 2 6 = [3, 4, 5, 6] := filter_sorted_eq _ (by decide)
  simp [migrateTo, this]

/-- whatever every per-version function preserves, the migration preserves -/
theorem invariant_preserved {P I : Type} (ms : Nat → P → P) (inv : P → I) (hinv : ∀ v x, inv (ms v x) = inv x)
    (reg : List Nat) (to : Nat) (d : Def P) : inv (migrateTo ms reg to d).payload = inv d.payload :=
  foldlRecOn _ _ (motive := fun d' : Def P => inv d'.payload = inv d.payload) rfl fun d' h v _ => (hinv v d'.payload).trans h

/-! ### 13.6: names

`limitName` tests the number of characters.  The function as `13_x.go` writes it, which tests bytes and cuts characters, is
`Steps.limit`; its `limit_short`, `limit_length`, `limit_idem` are in `Props/C16Steps`, and the statements about 13.6 build on those. -/

theorem trimSpace_length_le (s : List Char) : (trimSpace s).length ≤ s.length := by
  have a := (dropWhile_sublist (l := s) isSpace).length_le
  have b := (dropWhile_sublist (l := (s.dropWhile isSpace).reverse) isSpace).length_le
  simp only [trimSpace, length_reverse] at b ⊢
  omega

theorem trimSpace_take_length (max : Nat) (s : List Char) : (trimSpace (s.take max)).length ≤ max :=
  Nat.le_trans (trimSpace_length_le _) (length_take_le max s)

/-- a name within the limit is not touched -/
theorem limitName_short (max : Nat) (s : List Char) (h : s.length ≤ max) : limitName max s = s :=
  if_neg (Nat.not_lt.2 h)

/-- **The limit holds after the migration** … -/
theorem limitName_length (max : Nat) (s : List Char) : (limitName max s).length ≤ max := by
  unfold limitName
  split
  · exact trimSpace_take_length max s
  · omega

/-- … **and migrating again changes nothing.** -/
theorem limitName_idem (max : Nat) (s : List Char) : limitName max (limitName max s) = limitName max s :=
  limitName_short max _ (limitName_length max s)

/-- **The 13.3 rewrite preserves what expressions evaluate to**: `ContextRefRename("webhook",
"webhook.json")` applied to any expression — the whole language, anonymous functions that rebind
the name included — evaluates, in a context where the value has moved from `webhook` to
`webhook.json`, to what the original evaluated to; for every value domain and scope.  (`fresh`:
the new name does not already occur; `hm`: a name missing from the context is the same failure
under either name.) -/
theorem rewrite_13_3_preserves_value {V : Type} (S : Expr.Sem V)
    (hm : S.missing (Expr.lowerName "webhook.json".toList) = S.missing (Expr.lowerName "webhook".toList))
    (e : Expr.Expr) (ρ ρ' : Expr.Env V) (h : C11.Moved "webhook".toList "webhook.json".toList ρ ρ')
    (hf : Expr.fresh (Expr.lowerName "webhook.json".toList) e) :
    Expr.eval S ρ' (Expr.rename "webhook".toList "webhook.json".toList e) = Expr.eval S ρ e :=
  C11.rename_eval S "webhook".toList "webhook.json".toList hm e ρ ρ' h hf

/-! ### regenerated from the source on every run -/

/-- one function per version 13.1 … 13.6, each declaring its own version -/
theorem migration_functions_pinned :
    Gen.Migrations.functions =
      [("Migrate13_6", "13.6"), ("Migrate13_5", "13.5"), ("Migrate13_4", "13.4"), ("Migrate13_3", "13.3"),
       ("Migrate13_2", "13.2"), ("Migrate13_1", "13.1")] := rfl

/-- the keys that carry a flow's identity and connectivity -/
def graphKeys : List String := ["nodes", "exits", "destination_uuid", "exit_uuid", "category_uuid", "default_category_uuid", "actions", "router", "cases", "categories"]

/-- **No migration writes a key that carries the flow's identity or connectivity**; the only `uuid`
written or deleted is the templating object's own -/
theorem migrations_keep_graph_keys :
    Gen.Migrations.writes.all (fun w => !graphKeys.contains w.2.2 && (w.2.2 != "uuid" || w.2.1 == "templating")) = true := by
  decide +kernel

/-! ## Legacy flows: the entry node comes first -/

section LegacyOrder
open GoflowModel.Migrate

theorem leY_trans (a b c : LNode) (h1 : leY a b = true) (h2 : leY b c = true) : leY a c = true :=
  decide_eq_true (Int.le_trans (of_decide_eq_true h1) (of_decide_eq_true h2))

theorem leY_total (a b : LNode) : (leY a b || leY b a) = true := by
  simp [leY, Int.le_total]

/-- **The entry node is the first node of the migrated flow** whenever the legacy flow has it. -/
theorem legacy_entry_first (entry : Nat) (nodes : List LNode) (h : entry ∈ nodes.map (·.1)) :
    ((legacyOrder entry nodes).head?).map (·.1) = some entry := by
  obtain ⟨n, hn, he⟩ := mem_map.1 h
  have hne : nodes.filter (fun n => n.1 == entry) ≠ [] := ne_nil_of_mem (mem_filter.2 ⟨hn, beq_iff_eq.2 he⟩)
  unfold legacyOrder entryPart
  rw [getLast?_eq_some_getLast hne]
  exact congrArg some (beq_iff_eq.1 (mem_filter.1 (getLast_mem hne)).2)

/-- **No node is lost or duplicated** (node UUIDs are distinct): the migrated order is a
rearrangement of the nodes. -/
theorem legacy_order_perm (entry : Nat) (nodes : List LNode) (hd : (nodes.map (·.1)).Nodup) :
    (legacyOrder entry nodes).Perm nodes := by
  -- at most one node has the entry's UUID, so `entryPart` is all of them
  have hf : (nodes.filter (fun n => n.1 == entry)).length ≤ 1 := by
    have := nodup_iff_count.1 hd entry
    rwa [count_eq_countP, countP_map, countP_eq_length_filter] at this
  have he : entryPart entry nodes = nodes.filter (fun n => n.1 == entry) := by
    unfold entryPart
    generalize nodes.filter (fun n => n.1 == entry) = l at hf
    match l, hf with
    | [], _ | [_], _ => rfl
    | _ :: _ :: _, h => simp at h
  unfold legacyOrder
  rw [he]
  exact ((mergeSort_perm _ leY).append_left _).trans (filter_append_perm _ nodes)

/-- **The other nodes follow by their vertical position** … -/
theorem legacy_others_sorted (entry : Nat) (nodes : List LNode) :
    ((nodes.filter (fun n => !(n.1 == entry))).mergeSort leY).Pairwise (fun a b => a.2 ≤ b.2) :=
  (pairwise_mergeSort leY_trans leY_total _).imp of_decide_eq_true

/-- … **stably**: nodes that were already in the order of their positions keep their relative order
(in particular nodes at the same height stay in the order they were given). -/
theorem legacy_others_stable (entry : Nat) (nodes ys : List LNode) (hs : ys.Pairwise (fun a b => leY a b = true))
    (hsub : ys.Sublist (nodes.filter (fun n => !(n.1 == entry)))) :
    ys.Sublist ((nodes.filter (fun n => !(n.1 == entry))).mergeSort leY) :=
  List.sublist_mergeSort leY_trans leY_total hs hsub

/-- the premises are met by a legacy flow whose entry is neither listed first nor the topmost node:
`[a (y = 50), entry (y = 200), b (y = 10)]` -/
example : (7 : Nat) ∈ ([(1, 50), (7, 200), (2, 10)] : List LNode).map (·.1) ∧
    (([(1, 50), (7, 200), (2, 10)] : List LNode).map (·.1)).Nodup := by decide

end LegacyOrder

end GoflowModel.Props.C16
