import GoflowModel.Engine.Inspect
import GoflowModel.Gen.Actions
import GoflowModel.Gen.ActionRefs
import GoflowModel.Engine.Model
/-!
# C20 — Flow inspection over-approximates what a run can do

Results: in the engine a result is saved only by an action's `saveResult`/`saveWebhookResult`
or by a router's `routeToCategory`; inspection lists what actions declare
(`ResultContainer.Results`) and every router with a result name.  The two facts per action
type are regenerated from the source on every run (`Gen/Actions.lean`).
-/
namespace GoflowModel.Props.C20
open GoflowModel.Inspect

/-- If every action kind used saves only what it declares, every key a run can save on any
node is listed by inspection. -/
theorem results_declared (f : Flow) (h : Sound f) : ∀ k ∈ saved f, k ∈ declared f := by
  simp only [saved, declared, List.mem_flatMap, nodeSaved, nodeDeclared, List.mem_append, List.mem_filterMap]
  rintro k ⟨n, hn, ⟨a, ha, hka⟩ | hr⟩
  · refine ⟨n, hn, .inl ⟨a, ha, ?_⟩⟩
    split at hka
    · next hs => rwa [if_pos (h n hn a ha hs)]
    · cases hka
  · exact ⟨n, hn, .inr hr⟩

/-- The regenerated table: every action type that saves a result declares it — except
`open_ticket` (known finding F-C20-a; its testdata pins an empty `results` list, so the repair
cannot pass the unedited suite).  A new action that saves without declaring breaks this. -/
theorem table_sound_partial :
    Gen.Actions.actionResults.all (fun r => !r.2.1 || r.2.2 || r.1 == "open_ticket") = true := by
  decide +kernel

/-- the full statement is false on the current tree: the witness row -/
theorem open_ticket_undeclared : ("open_ticket", true, false) ∈ Gen.Actions.actionResults := by
  decide +kernel

/-- **Categories**: every category an action's code saves a result with (the constants passed to
`saveResult`, the values of the status table behind `saveWebhookResult`) is among the categories
its `Results` method declares to inspection, or the declaration leaves the categories open —
regenerated from flows/actions on every run; `open_ticket` declares nothing (F-C20-a). -/
theorem categories_declared_partial :
    Gen.Actions.actionCategories.all (fun r =>
      r.2.2.contains "*" || r.2.1.all (fun c => r.2.2.contains c) || r.1 == "open_ticket") = true := by
  decide +kernel

/-- the table is not empty: the webhook-like actions and the classifier are in it with fixed categories -/
theorem categories_table_covers :
    (Gen.Actions.actionCategories.map (·.1)) =
      ["call_classifier", "call_resthook", "call_webhook", "open_ticket", "set_run_result", "transfer_airtime"] ∧
    Gen.Actions.actionCategories.lookup "call_resthook" = some (["Failure", "Success"], ["Failure", "Success"]) :=
  ⟨rfl, rfl⟩

/-- **Dependencies**: every field of every registered action type that can hold a fixed asset
reference — found by reflection through embedded and nested structs and slices, each filled with a
reference of its own — is reported by inspection's dependency extraction (`inspect.Dependencies`);
regenerated on every run by executing the linked code.  A reference field that inspection does
not walk (unexported, behind a type it does not descend into, skipped by a condition) shows as
`false`. -/
theorem reference_fields_reported : Gen.ActionRefs.fields.all (fun r => r.2.2.2) = true := by decide

/-- the census is not empty and names the asset kinds the statement lists -/
theorem reference_fields_cover :
    (Gen.ActionRefs.fields.map (fun r => r.2.2.1)).eraseDups =
      ["group", "label", "classifier", "flow", "user", "topic", "optin", "contact", "template", "channel", "field"] := by
  decide +kernel

/-- the registered action and router types are the ones the models know -/
theorem registries_as_modelled :
    Gen.Actions.actionResults.map (·.1) =
      ["add_contact_groups", "add_contact_urn", "add_input_labels", "call_classifier", "call_resthook",
       "call_webhook", "enter_flow", "open_ticket", "play_audio", "remove_contact_groups", "request_optin",
       "say_msg", "send_broadcast", "send_email", "send_msg", "set_contact_channel", "set_contact_field",
       "set_contact_language", "set_contact_name", "set_contact_status", "set_contact_timezone",
       "set_run_result", "start_session", "transfer_airtime"] ∧
    Gen.Actions.routerTypes = ["random", "switch"] :=
  ⟨rfl, rfl⟩

/-- Every exit of a node whose router has a wait is a waiting exit. -/
theorem wait_node_exits_listed (f : Flow) (n : Node) (r : Router) (hn : n ∈ f.nodes)
    (hr : n.router = some r) (hw : r.hasWait = true) : ∀ e ∈ n.exits, e ∈ waitingExits f := by
  intro e he
  simp only [waitingExits, List.mem_flatMap]
  exact ⟨n, hn, by simp [hr, hw, he]⟩

open GoflowModel.Engine in
/-- Engine side: a resume is only carried out at a node whose router has a wait, so the exit by
which the resumed run leaves is an exit of such a node.  (Whatever `resume` does beyond the
rejections and `failSession`, it does after this check.) -/
theorem resume_only_at_wait_node (a : Assets) (o : Opts) (orc : Oracle) (s : Session) (k : ResumeKind)
    (w : Nat) (step : StepRef) (node : Engine.Node)
    (hs : s.status = .waiting) (hw : waitingRun s = some w)
    (hf : (getFlow a (((s.runs[w]?).map (·.flow)).getD 0)).isNone = false)
    (hc : ¬ ((countWaits s : Int) ≥ o.maxResumes))
    (hl : pathLocation a s w = some (step, node))
    (hnw : (if node.hasRouter then node.wait else none) = none) :
    resume a o orc s k = .ok (failSession ⟨s, []⟩ w) := by
  unfold resume
  simp [hs, hw, hf, hc, hl, hnw]

end GoflowModel.Props.C20
