import GoflowModel.Lemmas.Basics
import GoflowModel.Lemmas.MigrateSteps
import GoflowModel.Props.C16
/-!
# C16 — the per-version migration functions

`Props/C16.lean` proves the migration driver correct for *any* per-version functions and shows that
whatever each of them preserves the whole migration preserves.  This file is about the functions
themselves as `13_x.go` writes them on generic JSON (`Migrate/Steps.lean`, tied to the code by the
correspondence `K:migstep`: every registered function run on the same documents): for **every**
document — valid or not — and every sequence of generated UUIDs,

* each of `Migrate13_1`, `13_2`, `13_4`, `13_5`, `13_6`, and the version stamp written after it, keeps the flow's
  `uuid`, the nodes in their order, and each node's `uuid` and `exits` (exit UUIDs and destinations):
  the view `graph` of `Lemmas/MigrateSteps` — `step_keeps_graph`;
* hence so does any migration from any 13.x version to any later one, given that the template
  rewrite of 13.3 does (it only replaces strings at template positions) — `migration_keeps_graph`;
* what each function establishes: 13.1 gives every templating object a `uuid`; 13.2 leaves a language
  of three bytes; 13.4 replaces `uuid`/`variables` by one `body` component; 13.5 removes `templating`
  and leaves a list of strings as `template_variables`; 13.6 leaves names within the limits, and
  applying it again changes nothing (`limit_idem`, `limKey_idem`).
-/
namespace GoflowModel.Props.C16Steps
open GoflowModel.Json GoflowModel.Migrate GoflowModel.Migrate.Steps

theorem graph_13_2 (f : JO) : graph (mig13_2 f) = graph f := by
  fun_cases mig13_2 f
  · rw [graph_set_ne key_ne key_ne, graph_set_ne key_ne key_ne]
  · exact graph_set_ne key_ne key_ne ..
  · rfl

theorem get_node13_6_ne {k : Str} (h : "router".toList ≠ k) (n : JO) :
    get k (node13_6 n) = get k (onKeyArr "actions".toList (fun (_ : Unit) a => ((), act13_6 a)) () n).2 := by
  fun_cases node13_6 n
  · exact get_set_ne h ..
  · rfl

theorem keepsNode_13_6 : KeepsNode (fun (_ : Unit) n => ((), node13_6 n)) := fun _ o => by
  simp only [nodeView]
  rw [get_node13_6_ne key_ne, get_node13_6_ne key_ne]
  exact keepsNode_onActions _ () o

/-- **Each per-version function, with the version stamp written after it, keeps the flow's UUID, its
nodes and how they are connected** — for every document and every generated UUID; `hm3`: the 13.3
template rewrite does (it replaces strings at template positions only). -/
theorem step_keeps_graph (gen : Nat → Str) (m3 : JO → JO) (hm3 : ∀ f, graph (m3 f) = graph f) (v : Nat) (p : Nat × JO) :
    graph (stepFn gen m3 v p).2 = graph p.2 := by
  simp only [stepFn]
  rw [graph_set_ne key_ne key_ne]
  match v with
  | 1 => exact graph_onActions ..
  | 2 => exact graph_13_2 p.2
  | 3 => exact hm3 p.2
  | 4 | 5 => exact (graph_putLocalization ..).trans (graph_onActions ..)
  | 6 => exact graph_onNodes _ keepsNode_13_6 () p.2
  | 0 | _ + 7 => rfl

/-- **Migration from any version to any later one keeps the flow's UUID, its nodes and how they are
connected**: the driver of `Props/C16` run with the per-version functions as modelled. -/
theorem migration_keeps_graph (gen : Nat → Str) (m3 : JO → JO) (hm3 : ∀ f, graph (m3 f) = graph f)
    (reg : List Nat) (to : Nat) (d : Def (Nat × JO)) :
    graph (migrateTo (stepFn gen m3) reg to d).payload.2 = graph d.payload.2 :=
  C16.invariant_preserved (stepFn gen m3) (fun p => graph p.2) (step_keeps_graph gen m3 hm3) reg to d

/-- the entry node stays first: the first node's view is unchanged -/
theorem migration_keeps_entry (gen : Nat → Str) (m3 : JO → JO) (hm3 : ∀ f, graph (m3 f) = graph f)
    (reg : List Nat) (to : Nat) (d : Def (Nat × JO)) :
    (graph (migrateTo (stepFn gen m3) reg to d).payload.2).2.map List.head? = (graph d.payload.2).2.map List.head? := by
  rw [migration_keeps_graph gen m3 hm3]

/-- non-vacuity: a definition with two nodes, the second a router, has the view one expects, and 13.6
changes its over-long result name while keeping that view -/
def sample : JO :=
  .cons "uuid".toList (.str "F".toList) (.cons "nodes".toList (.arr
    (.cons (.obj (.cons "uuid".toList (.str "N1".toList) (.cons "exits".toList (.arr (.cons (.obj (.cons "uuid".toList (.str "E1".toList)
        (.cons "destination_uuid".toList (.str "N2".toList) .nil))) .nil)) .nil)))
    (.cons (.obj (.cons "uuid".toList (.str "N2".toList) (.cons "router".toList (.obj (.cons "result_name".toList
        (.str (List.replicate 70 'x')) .nil)) (.cons "exits".toList (.arr .nil) .nil)))) .nil))) .nil)

example : (graph sample).2.map List.length = some 2 := by decide +kernel

example : get "result_name".toList (router13_6 (.cons "result_name".toList (.str (List.replicate 70 'x')) .nil))
    = some (.str (List.replicate 64 'x')) := by rfl

/-- 13.1: a `send_msg` action with a templating object gets the next generated UUID on it -/
theorem act13_1_uuid (gen : Nat → Str) (n : Nat) (a t : JO) (ht : isType "send_msg" a = true)
    (h : get "templating".toList a = some (.obj t)) :
    ∃ t', get "templating".toList (act13_1 gen n a).2 = some (.obj t') ∧ get "uuid".toList t' = some (.str (gen n)) ∧
      (act13_1 gen n a).1 = n + 1 := by
  unfold act13_1
  rw [if_pos ht, h]
  exact ⟨_, get_set_eq .., get_set_eq .., rfl⟩

/-- … and nothing else is touched or drawn -/
theorem act13_1_other (gen : Nat → Str) (n : Nat) (a : JO)
    (h : isType "send_msg" a = false ∨ ∀ t, get "templating".toList a ≠ some (.obj t)) : act13_1 gen n a = (n, a) := by
  fun_cases act13_1 gen n a with
  | case1 hty t ht => exact absurd ht (h.resolve_left (by simp [hty]) t)
  | case2 | case3 => rfl

/-- 13.2: the language is three bytes long afterwards -/
theorem lang_13_2 (f : JO) : utf8Len (asStr (get "language".toList (mig13_2 f))) = 3 := by
  fun_cases mig13_2 f with
  | case1 => rw [get_set_ne key_ne, get_set_eq]; decide
  | case2 => rw [get_set_eq]; decide
  | case3 h => exact Decidable.of_not_not h

/-- 13.2: when the language is replaced by `und`, the localization (if there is one) has no section for `und` afterwards:
the flow's own language has no translations of itself -/
theorem lang_13_2_no_own_section (f l : JO) (h : utf8Len (asStr (get "language".toList f)) ≠ 3)
    (hl : get "localization".toList f = some (.obj l)) :
    ∃ l', get "localization".toList (mig13_2 f) = some (.obj l') ∧ get "und".toList l' = none := by
  unfold mig13_2
  rw [if_pos h]
  simp only [localization]
  rw [get_set_ne key_ne, hl]
  exact ⟨_, get_set_eq .., get_del_eq ..⟩

/-- 13.2: … and a language that is three bytes long is left alone, with everything else -/
theorem lang_13_2_valid (f : JO) (h : utf8Len (asStr (get "language".toList f)) = 3) : mig13_2 f = f :=
  if_neg (fun hne => hne h)

/-- 13.4: the templating object has one component list and neither `uuid` nor `variables` afterwards -/
theorem act13_4_shape (gen : Nat → Str) (s : Nat × Option JO) (a t : JO) (ht : isType "send_msg" a = true)
    (h : get "templating".toList a = some (.obj t)) :
    ∃ t', get "templating".toList (act13_4 gen s a).2 = some (.obj t') ∧
      get "uuid".toList t' = none ∧ get "variables".toList t' = none ∧
      get "components".toList t' = some (.arr (.cons (.obj (.cons "uuid".toList (.str (gen s.1))
        (.cons "name".toList (.str "body".toList) (.cons "params".toList (.arr (varsOf t)) .nil)))) .nil)) := by
  rw [act13_4_snd gen s ht h]
  exact ⟨_, get_set_eq .., templating13_4 ..⟩

/-- 13.5: the action has no `templating` afterwards, its `template` is the templating's, and
`template_variables` is a list of strings: the params of the components in order -/
theorem act13_5_shape (loc : Option JO) (a t : JO) (ht : isType "send_msg" a = true)
    (h : get "templating".toList a = some (.obj t)) :
    get "templating".toList (act13_5 loc a).2 = none ∧
    get "template".toList (act13_5 loc a).2 = some ((get "template".toList t).getD .null) ∧
    get "template_variables".toList (act13_5 loc a).2 = some (.arr (strArr ((match get "components".toList t with
      | some (.arr l) => compsOf l
      | _ => []).flatMap (fun (c : Str × List Str) => c.2)))) := by
  unfold act13_5
  rw [if_pos ht, h]
  refine ⟨get_del_eq .., ?_, ?_⟩
  · rw [get_del_ne key_ne, get_set_ne key_ne, get_set_eq]
  · rw [get_del_ne key_ne, get_set_eq]; rfl

theorem length_le_utf8Len : (s : Str) → s.length ≤ utf8Len s
  | [] => Nat.le_refl 0
  | c :: rest => Nat.succ_le_of_lt (Nat.lt_of_le_of_lt (length_le_utf8Len rest) (Nat.lt_add_of_pos_left (Char.utf8Size_pos c)))

/-- **A limited name has at most `max` characters.** -/
theorem limit_length (max : Nat) (s : Str) : (limit max s).length ≤ max := by
  unfold limit
  split
  · exact C16.trimSpace_take_length max s
  · have := length_le_utf8Len s; omega

theorem trimSpace_idem (s : Str) : trimSpace (trimSpace s) = trimSpace s := by
  unfold trimSpace
  generalize hc : (s.dropWhile isSpace).reverse.dropWhile isSpace = c
  -- `c.reverse` is a prefix of what `dropWhile` left of `s`, so neither it nor `c` begins with a space
  obtain ⟨t, ht⟩ : c.reverse <+: s.dropWhile isSpace := by
    rw [← List.reverse_suffix, List.reverse_reverse]; exact hc ▸ List.dropWhile_suffix isSpace
  have h1 : c.reverse.dropWhile isSpace = c.reverse := dropWhile_eq_self fun x hx =>
    head?_dropWhile (l := s) (by rw [← ht, List.head?_append, hx]; rfl)
  rw [h1, List.reverse_reverse, dropWhile_eq_self fun x hx => head?_dropWhile (hc ▸ hx)]

/-- **Applying the limit again changes nothing.** -/
theorem limit_idem (max : Nat) (s : Str) : limit max (limit max s) = limit max s := by
  by_cases h : utf8Len s > max
  · rw [show limit max s = trimSpace (s.take max) from if_pos h]
    unfold limit
    split
    · rw [List.take_of_length_le (C16.trimSpace_take_length max s), trimSpace_idem]
    · rfl
  · have e : limit max s = s := if_neg h
    rw [e, e]

/-- a name within the byte limit is not touched -/
theorem limit_short (max : Nat) (s : Str) (h : utf8Len s ≤ max) : limit max s = s :=
  if_neg (Nat.not_lt.2 h)

theorem limKey_of_str {k : Str} {o : JO} {s : Str} (h : get k o = some (.str s)) (max : Nat) :
    limKey k max o = set k (.str (limit max s)) o := by
  unfold limKey limit
  rw [h]
  simp only
  split
  · rfl
  · exact (set_get_self h).symm

theorem limKey_not_str (k : Str) (max : Nat) (o : JO) (h : ∀ s, get k o ≠ some (.str s)) : limKey k max o = o := by
  fun_cases limKey k max o with
  | case1 s hs | case2 s hs => exact absurd hs (h s)
  | case3 => rfl

theorem get_limKey {k : Str} {o : JO} {s : Str} (h : get k o = some (.str s)) (max : Nat) :
    get k (limKey k max o) = some (.str (limit max s)) := by
  rw [limKey_of_str h, get_set_eq]

theorem get_limKey_ne {k k' : Str} (h : k' ≠ k) (max : Nat) (o : JO) : get k (limKey k' max o) = get k o := by
  fun_cases limKey k' max o <;> simp [get_set_ne h]

theorem limKey_within (k : Str) (max : Nat) (o : JO) (s : Str) (h : get k (limKey k max o) = some (.str s)) : s.length ≤ max := by
  by_cases hs : ∃ s0, get k o = some (.str s0)
  · obtain ⟨s0, hs0⟩ := hs
    rw [get_limKey hs0] at h
    cases h
    exact limit_length max s0
  · rw [limKey_not_str k max o fun s0 h0 => hs ⟨s0, h0⟩] at h
    exact absurd ⟨s, h⟩ hs

/-- **13.6 applied to a name again changes nothing.** -/
theorem limKey_idem (k : Str) (max : Nat) (o : JO) : limKey k max (limKey k max o) = limKey k max o := by
  by_cases h : ∃ s, get k o = some (.str s)
  · obtain ⟨s, hs⟩ := h
    rw [limKey_of_str hs, limKey_of_str (get_set_eq ..), limit_idem, set_set]
  · have e := limKey_not_str k max o fun s hs => h ⟨s, hs⟩
    rw [e, e]

/-- **After 13.6 a `set_run_result` action's name and category are within the limits** -/
theorem act13_6_limits (a : JO) (ht : isType "set_run_result" a = true) (n c : Str)
    (hn : get "name".toList a = some (.str n)) (hc : get "category".toList a = some (.str c)) :
    get "name".toList (act13_6 a) = some (.str (limit 64 n)) ∧ (limit 64 n).length ≤ 64 ∧
    get "category".toList (act13_6 a) = some (.str (limit 36 c)) ∧ (limit 36 c).length ≤ 36 := by
  unfold act13_6
  rw [if_pos ht]
  refine ⟨?_, limit_length 64 n, get_limKey ?_ _, limit_length 36 c⟩
  · rw [get_limKey_ne key_ne, get_limKey hn]
  · rw [get_limKey_ne key_ne, hc]

/-- **… and a router's result name** -/
theorem router13_6_result_name (r : JO) (n : Str) (hn : get "result_name".toList r = some (.str n)) :
    ∃ n', get "result_name".toList (router13_6 r) = some (.str n') ∧ n'.length ≤ 64 := by
  refine ⟨_, ?_, limit_length 64 n⟩
  fun_cases router13_6 r
  · rw [get_set_ne key_ne, get_limKey hn]
  · exact get_limKey hn _

end GoflowModel.Props.C16Steps
