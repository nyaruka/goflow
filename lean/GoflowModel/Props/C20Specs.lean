import GoflowModel.Engine.ResultSpecs
/-!
# C20 — merging the extracted results loses nothing

Inspection lists a flow's results by merging what its actions and routers declare (`flows.NewResultSpecs`).  For every
list of extracted results: every key is listed; every category any of them declares is listed under its key (up to case,
which is how the merge compares); every node is listed under the key; and no key is listed twice.  Together with
`results_declared` (each action and router declares what it saves) this is "every result a run saves appears in the
inspection's results under the same key, its category among the listed ones".
-/
namespace GoflowModel.Props.C20Specs
open GoflowModel.ResultSpecs

def Covers (lower : String → String) (specs : List Spec) (r : Extracted) : Prop :=
  ∃ s ∈ specs, s.key = r.key ∧ (∀ c ∈ r.cats, hasCat lower s.cats c = true) ∧ r.node ∈ s.nodes

theorem foldl_of_or_mem {α σ : Type} (f : σ → α → σ) (P : σ → α → Prop)
    (hf : ∀ s x y, P s y ∨ y = x → P (f s x) y) (l : List α) (s : σ) (y : α)
    (h : P s y ∨ y ∈ l) : P (l.foldl f s) y := by
  induction l generalizing s with
  | nil => exact h.resolve_right List.not_mem_nil
  | cons x l ih =>
    rw [List.mem_cons, ← or_assoc] at h
    exact ih _ (h.imp_left (hf s x y))

theorem hasCat_append (lower : String → String) (cs more : List String) (c : String) :
    hasCat lower (cs ++ more) c = (hasCat lower cs c || hasCat lower more c) :=
  List.any_append

theorem hasCat_of_mem (lower : String → String) (cs : List String) (c : String) (h : c ∈ cs) : hasCat lower cs c = true :=
  List.any_eq_true.2 ⟨c, h, beq_self_eq_true _⟩

theorem addCats_eq_foldl (lower : String → String) (cs new : List String) :
    addCats lower cs new = new.foldl (fun cs c => if hasCat lower cs c then cs else cs ++ [c]) cs := by
  induction new generalizing cs with
  | nil => rfl
  | cons x rest ih => exact ih _

theorem hasCat_addCats (lower : String → String) (cs new : List String) (c : String)
    (h : hasCat lower cs c = true ∨ c ∈ new) : hasCat lower (addCats lower cs new) c = true := by
  rw [addCats_eq_foldl]
  refine foldl_of_or_mem _ (fun cs c => hasCat lower cs c = true) (fun cs x c h => ?_) new cs c h
  split
  · next hx => exact h.elim id (· ▸ hx)
  · rw [hasCat_append, Bool.or_eq_true]
    exact h.imp_right fun hc => hasCat_of_mem lower _ c (List.mem_singleton.2 hc)

theorem mem_mergeInto_nodes (lower : String → String) (s : Spec) (r : Extracted) (n : Nat)
    (h : n ∈ s.nodes ∨ n = r.node) : n ∈ (mergeInto lower s r).nodes := by
  unfold mergeInto
  split
  · next hc => exact h.elim id fun e => e ▸ List.contains_iff_mem.1 hc
  · exact List.mem_append.2 (h.imp_right List.mem_singleton.2)

theorem covers_cons (lower : String → String) (s : Spec) (specs : List Spec) (r : Extracted) :
    Covers lower (s :: specs) r ↔
      (s.key = r.key ∧ (∀ c ∈ r.cats, hasCat lower s.cats c = true) ∧ r.node ∈ s.nodes) ∨ Covers lower specs r := by
  simp only [Covers, List.mem_cons, or_and_right, exists_or, exists_eq_left]

theorem step_covers (lower : String → String) (specs : List Spec) (r r0 : Extracted) (h : Covers lower specs r0 ∨ r0 = r) :
    Covers lower (step lower specs r) r0 := by
  fun_induction step lower specs r with
  | case1 r =>
    obtain ⟨_, ht, _⟩ | rfl := h
    · cases ht
    · exact ⟨_, List.mem_singleton_self _, rfl, hasCat_of_mem lower _, List.mem_singleton_self _⟩
  | case2 s rest r hk =>
    rw [covers_cons] at h ⊢
    rcases h with (hs | hrest) | rfl
    · exact .inl ⟨hs.1, fun c hc => hasCat_addCats lower _ _ c (.inl (hs.2.1 c hc)), mem_mergeInto_nodes lower s r _ (.inl hs.2.2)⟩
    · exact .inr hrest
    · exact .inl ⟨hk, fun c hc => hasCat_addCats lower _ _ c (.inr hc), mem_mergeInto_nodes lower s r0 _ (.inr rfl)⟩
  | case3 s rest r hk ih =>
    rw [covers_cons] at h ⊢
    exact (or_assoc.1 h).imp_right ih

/-- **Nothing is lost in the merge**: for every extracted result, the inspection's results have a spec with its key that
lists every one of its categories (up to case) and its node. -/
theorem merge_loses_nothing (lower : String → String) (rs : List Extracted) :
    ∀ r ∈ rs, Covers lower (newResultSpecs lower rs) r :=
  fun r hr => foldl_of_or_mem _ (Covers lower) (step_covers lower) rs [] r (.inr hr)

theorem step_keys (lower : String → String) (specs : List Spec) (r : Extracted) :
    (step lower specs r).map (·.key) = if r.key ∈ specs.map (·.key) then specs.map (·.key) else specs.map (·.key) ++ [r.key] := by
  fun_induction step lower specs r with
  | case1 r => rfl
  | case2 s rest r hk => simp [mergeInto, hk]
  | case3 s rest r hk ih =>
    simp only [List.map_cons, ih, List.mem_cons, Ne.symm hk, false_or]
    split <;> rfl

/-- **No key is listed twice.** -/
theorem keys_distinct (lower : String → String) (rs : List Extracted) : ((newResultSpecs lower rs).map (·.key)).Nodup :=
  List.foldlRecOn rs (step lower) (motive := fun specs => (specs.map (·.key)).Nodup) List.nodup_nil
    fun specs h r _ => by
      rw [step_keys]
      split
      · exact h
      · next hn =>
        refine List.nodup_append.2 ⟨h, by simp, fun a ha b hb hab => hn ?_⟩
        rwa [← List.mem_singleton.1 hb, ← hab]

/-- a router and an action of one node declaring the same key with different categories (the case of seeded change
`c20-result-categories-same-node`): all three categories are listed -/
example : (newResultSpecs id [⟨1, 1, ["Pending"], 7⟩, ⟨1, 1, ["Known", "Other"], 7⟩]) = [⟨1, 1, ["Pending", "Known", "Other"], [7]⟩] := by decide +kernel

end GoflowModel.Props.C20Specs
