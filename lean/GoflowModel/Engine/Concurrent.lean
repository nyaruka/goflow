/-
Shared state under concurrent sessions.

Three small machines, each run by an arbitrary scheduler (a list of thread ids, one atomic step
per entry; a step that is not enabled is a no-op — the thread is blocked):

* `Cache` — `flowAssets.Get` / `FindByName`: the whole body runs under the assets' mutex; a flow
  that is not cached is read and migrated (`load`) and stored.
* `Lazy` — the lazy initialisation `XObject.ensureInitialized` had before the repair: test the
  field, build, store, with no synchronisation.
* `Once` — the same behind `sync.Once` (after the repair): an atomic done-flag, a mutex for the
  slow path, the initialiser run by whoever gets the mutex first while the flag is clear.
-/
namespace GoflowModel.Concurrent

def upd {β : Type} (f : Nat → β) (i : Nat) (v : β) : Nat → β := fun j => if j = i then v else f j

@[simp] theorem upd_same {β : Type} (f : Nat → β) (i : Nat) (v : β) : upd f i v i = v := by simp [upd]
theorem upd_other {β : Type} {f : Nat → β} {i j : Nat} {v : β} (h : j ≠ i) : upd f i v j = f j := by simp [upd, h]

theorem forall_upd {β : Type} {P : Nat → β → Prop} {f : Nat → β} {i : Nat} {v : β} (self : P i v)
    (others : ∀ j, j ≠ i → P j (f j)) (j : Nat) : P j (upd f i v j) := by
  by_cases h : j = i
  · rw [h, upd_same]; exact self
  · rw [upd_other h]; exact others j h

/-- Threads around one lock, thread `u` relying on `ok s u p` of the shared state `s` while it stands at `p`: if threads other
than the holder keep their assertion (`frame`), a step of `t` with no other holder before or after leaves only `self` to show. -/
theorem forall_upd_of_lock {σ π : Type} {holder : σ → Option Nat} {ok : σ → Nat → π → Prop} {s s' : σ}
    {pc : Nat → π} {t : Nat} {p : π} (h : ∀ u, ok s u (pc u))
    (frame : ∀ {u p}, ok s u p → holder s ≠ some u → holder s' ≠ some u → ok s' u p)
    (before : holder s = none ∨ holder s = some t) (after : holder s' = none ∨ holder s' = some t) (self : ok s' t p) :
    ∀ u, ok s' u (upd pc t p u) := by
  have other : ∀ {o : Option Nat}, o = none ∨ o = some t → ∀ u, u ≠ t → o ≠ some u :=
    fun ho u hu e => hu (by simpa [e] using ho)
  exact forall_upd self fun u hu => frame (h u) (other before u hu) (other after u hu)

namespace Cache

inductive Pc where
  | start              -- about to call Get
  | locked             -- holds the mutex, has not looked yet
  | loaded (v : Nat)   -- holds the mutex, has read and migrated the flow, has not stored it yet
  | done (v : Nat)     -- returned v
deriving DecidableEq, Repr

structure St where
  pc : Nat → Pc
  holder : Option Nat
  cache : Nat → Option Nat
  loads : List Nat       -- history: the keys read from the source so far

def init : St := ⟨fun _ => .start, none, fun _ => none, []⟩

/-- one atomic step of thread `t`, which wants flow `key t`; `load` is the source + migration -/
def step (key load : Nat → Nat) (s : St) (t : Nat) : St :=
  match s.pc t with
  | .start => if s.holder = none then { s with pc := upd s.pc t .locked, holder := some t } else s
  | .locked =>
    match s.cache (key t) with
    | some v => { s with pc := upd s.pc t (.done v), holder := none }
    | none => { s with pc := upd s.pc t (.loaded (load (key t))), loads := key t :: s.loads }
  | .loaded v => { s with pc := upd s.pc t (.done v), cache := upd s.cache (key t) (some v), holder := none }
  | .done _ => s

def run (key load : Nat → Nat) (sched : List Nat) (s : St) : St := sched.foldl (step key load) s

/-- the thread is between Lock and Unlock, where it reads and writes the cache map -/
def critical (s : St) (t : Nat) : Prop := s.pc t = .locked ∨ ∃ v, s.pc t = .loaded v

end Cache

namespace Lazy

inductive Pc where
  | start | sawNil | wroteDef | done
deriving DecidableEq, Repr

structure St where
  pc : Nat → Pc
  props : Bool      -- the field is set

def init : St := ⟨fun _ => .start, false⟩

def step (s : St) (t : Nat) : St :=
  match s.pc t with
  | .start => if s.props then { s with pc := upd s.pc t .done } else { s with pc := upd s.pc t .sawNil }
  | .sawNil => { s with pc := upd s.pc t .wroteDef }                       -- x.def = …
  | .wroteDef => { pc := upd s.pc t .done, props := true }                 -- x.props = …
  | .done => s

def run (sched : List Nat) (s : St) : St := sched.foldl step s

/-- the thread's next step writes the object's fields -/
def writing (s : St) (t : Nat) : Bool := s.pc t == .sawNil || s.pc t == .wroteDef
/-- the thread's next step reads the object's fields -/
def reading (s : St) (t : Nat) : Bool := s.pc t == .start

/-- two threads about to touch the same fields, one of them writing, with nothing ordering them -/
def race (s : St) (t u : Nat) : Bool := t != u && writing s t && (writing s u || reading s u)

end Lazy

namespace Once

inductive Pc where
  | start          -- about to call Do: will load the flag
  | wantLock       -- saw the flag clear: will lock
  | holding        -- has the mutex: will re-check the flag
  | initialising   -- has the mutex and saw the flag clear: runs the initialiser (writes the fields)
  | storing        -- has run the initialiser: will set the flag and unlock
  | reading        -- Do has returned: reads the fields
deriving DecidableEq, Repr

structure St where
  pc : Nat → Pc
  flag : Bool
  holder : Option Nat
  inits : Nat          -- how many times the initialiser has run

def init : St := ⟨fun _ => .start, false, none, 0⟩

def step (s : St) (t : Nat) : St :=
  match s.pc t with
  | .start => if s.flag then { s with pc := upd s.pc t .reading } else { s with pc := upd s.pc t .wantLock }
  | .wantLock => if s.holder = none then { s with pc := upd s.pc t .holding, holder := some t } else s
  | .holding =>
    if s.flag then { s with pc := upd s.pc t .reading, holder := none }
    else { s with pc := upd s.pc t .initialising }
  | .initialising => { s with pc := upd s.pc t .storing, inits := s.inits + 1 }
  | .storing => { s with pc := upd s.pc t .reading, flag := true, holder := none }
  | .reading => s

def run (sched : List Nat) (s : St) : St := sched.foldl step s

def writing (s : St) (t : Nat) : Prop := s.pc t = .initialising
def readingFields (s : St) (t : Nat) : Prop := s.pc t = .reading

end Once

end GoflowModel.Concurrent
